-- GENERATED by vlib.gen_main -- do not edit
import Relay.Base.Duration
import Relay.Base.GoAccess
import Relay.Base.GoLite
import Relay.Base.KV
import Relay.Base.LockSerial
import Relay.Base.Locks
import Relay.Base.TimeText
import Relay.Base.Wire
import Relay.Drv.Agg
import Relay.Drv.ChanMap
import Relay.Drv.Conc
import Relay.Drv.Deny
import Relay.Drv.Duration
import Relay.Drv.Expiry
import Relay.Drv.Flush
import Relay.Drv.GenDeny
import Relay.Drv.GenHub
import Relay.Drv.GenTtlCode
import Relay.Drv.Hub
import Relay.Drv.PlayFile
import Relay.Drv.Reconws
import Relay.Drv.Relay
import Relay.Drv.Rwc
import Relay.Drv.Status
import Relay.Drv.TtlCode
import Relay.Drv.VwApi
import Relay.Extracted.Consts
import Relay.Extracted.Fingerprints
import Relay.Extracted.GenAccess
import Relay.Extracted.GenChanmap
import Relay.Extracted.GenCrossbar
import Relay.Extracted.GenDeny
import Relay.Extracted.GenHub
import Relay.Extracted.GenPermission
import Relay.Extracted.GenTtlcode
import Relay.Extracted.Handlers
import Relay.Extracted.Locks
import Relay.Extracted.Loops
import Relay.Lemmas.Agg
import Relay.Lemmas.DurationRT
import Relay.Lemmas.PlayFile
import Relay.Lemmas.RelayStep
import Relay.Lemmas.RwcKV
import Relay.Lemmas.SendQueues
import Relay.Lemmas.StatusKeys
import Relay.Lemmas.StatusRT
import Relay.Lemmas.TimeRT
import Relay.Lemmas.TopicMap
import Relay.Lemmas.VwJson
import Relay.Model.Access
import Relay.Model.Agg
import Relay.Model.ChanMap
import Relay.Model.Conc
import Relay.Model.Deny
import Relay.Model.Expiry
import Relay.Model.Filter
import Relay.Model.Flush
import Relay.Model.Hub
import Relay.Model.Lifecycle
import Relay.Model.Path
import Relay.Model.PlayFile
import Relay.Model.Reconws
import Relay.Model.Relay
import Relay.Model.Rwc
import Relay.Model.Status
import Relay.Model.TtlCode
import Relay.Model.VwApi
import Relay.Props.Anchors.C01
import Relay.Props.Anchors.C02
import Relay.Props.Anchors.C03
import Relay.Props.Anchors.C04
import Relay.Props.Anchors.C05
import Relay.Props.Anchors.C06
import Relay.Props.Anchors.C07
import Relay.Props.Anchors.C08
import Relay.Props.Anchors.C09
import Relay.Props.Anchors.C10
import Relay.Props.Anchors.C11
import Relay.Props.Anchors.C12
import Relay.Props.Anchors.C13
import Relay.Props.Anchors.C14
import Relay.Props.Anchors.C15
import Relay.Props.Anchors.C16
import Relay.Props.Anchors.C17
import Relay.Props.Anchors.C18
import Relay.Props.Anchors.C19
import Relay.Props.Anchors.C20
import Relay.Props.C01
import Relay.Props.C01Prov
import Relay.Props.C02
import Relay.Props.C03
import Relay.Props.C04
import Relay.Props.C05
import Relay.Props.C06
import Relay.Props.C07
import Relay.Props.C07Class
import Relay.Props.C07Seq
import Relay.Props.C08ChanMap
import Relay.Props.C09
import Relay.Props.C10
import Relay.Props.C11
import Relay.Props.C12
import Relay.Props.C13
import Relay.Props.C14
import Relay.Props.C14Members
import Relay.Props.C15
import Relay.Props.C16
import Relay.Props.C17
import Relay.Props.C18
import Relay.Props.C19
import Relay.Props.C20
import Relay.Props.HubInv
import Relay.Tie.Access
import Relay.Tie.AccessE2E
import Relay.Tie.ChanMap
import Relay.Tie.Deny
import Relay.Tie.Hub
import Relay.Tie.HubDcs
import Relay.Tie.HubE2E
import Relay.Tie.HubRefine
import Relay.Tie.PlainHub
import Relay.Tie.TtlCode
