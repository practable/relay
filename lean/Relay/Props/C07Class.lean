import Relay.Model.Conc

/-!
# C07 — every violation of `DenySticks` has one of the two recorded shapes

`violations_are_the_two_shapes`: for EVERY number of session / deny / allow / admission requests on the
booking and EVERY interleaving of their internal steps with the hub, the crossbar listener and connection
tear-down: if, at quiescence, an acknowledged deny (not followed by an explicit allow) is not in effect —
the booking is off the deny list, or a connection under it is still joined, or a session request started
after the acknowledgement got a code — then during that execution
* pattern A occurred (`flagA`): some session request's `Allow` ran while the booking was on the deny list
  (i.e. a deny listed the booking between that request's deny check and its `Allow`), or
* pattern B occurred (`flagB`): the hub recorded a connection's cancel channel while the booking was denied
  and no closure was pending any more (i.e. an admission passed the deny re-check and registered only after
  the crossbar had processed the deny).
These are exactly the signatures of known findings K1 and K2: the classification is proved, not sampled.
-/

namespace Conc

/-- a deny thread that has listed the booking and not been overtaken by an explicit allow -/
def liveDeny (s : Sh) (t : Thread) : Bool :=
  (t.pc == .dListed || t.pc == .dPurged || t.pc == .dNotified) && t.epochAtList == s.allowEpoch

structure CInv (c : Cfg) : Prop where
  j1 : c.sh.acked = true → c.sh.flagA = false → c.sh.denied = true
  j2 : ∀ k ∈ c.sh.members, k ∈ c.sh.recorded ∨ k ∈ c.sh.cancelled
  j3 : c.sh.denied = true → c.sh.flagB = false → pendingClose c = false → c.sh.recorded = []
  j4 : (∀ t ∈ c.threads, t.startedAfterAck = true → c.sh.flagA = true) ∧ (0 < c.sh.sessionsOkAfterAck → c.sh.flagA = true)
  j5 : ∀ t ∈ c.threads, liveDeny c.sh t = true → c.sh.flagA = false → c.sh.denied = true
  j6 : ∀ t ∈ c.threads, t.epochAtList ≤ c.sh.allowEpoch

theorem split_of_getElem? {α : Type} {l : List α} {i : Nat} {a : α} (h : l[i]? = some a) :
    ∃ l₁ l₂, l = l₁ ++ a :: l₂ ∧ ∀ b, l.set i b = l₁ ++ b :: l₂ := by
  obtain ⟨hlt, rfl⟩ := List.getElem?_eq_some_iff.1 h
  exact ⟨l.take i, l.drop (i + 1), by rw [← List.drop_eq_getElem_cons hlt, List.take_append_drop],
    fun b => by rw [List.set_eq_take_append_cons_drop, if_pos hlt]⟩

theorem pendingClose_split {s : Sh} {l₁ l₂ : List Thread} {t : Thread} :
    pendingClose ⟨s, l₁ ++ t :: l₂⟩ = false ↔
      (s.queue = 0 ∧ t.denyInFlight = false) ∧ l₁.any Thread.denyInFlight = false ∧ l₂.any Thread.denyInFlight = false := by
  simp only [pendingClose, List.any_append, List.any_cons, Bool.or_eq_false_iff, decide_eq_false_iff_not, Nat.not_lt,
    Nat.le_zero_eq]
  exact ⟨fun ⟨q, a, f, b⟩ => ⟨⟨q, f⟩, a, b⟩, fun ⟨⟨q, f⟩, a, b⟩ => ⟨q, a, f, b⟩⟩

/-- the deny handler between listing the booking and its answer; by matching, so that it evaluates on a constructor -/
def Pc.listed : Pc → Bool
  | .dListed | .dPurged | .dNotified => true
  | _ => false

theorem Pc.listed_eq (pc : Pc) : (pc == .dListed || pc == .dPurged || pc == .dNotified) = pc.listed := by
  cases pc <;> rfl

theorem liveDeny_iff {s : Sh} {t : Thread} :
    liveDeny s t = true ↔ t.pc.listed = true ∧ t.epochAtList = s.allowEpoch := by
  rw [liveDeny, Pc.listed_eq, Bool.and_eq_true, beq_iff_eq]

theorem Thread.not_inFlight {t : Thread} (h : t.pc.listed = false) : t.denyInFlight = false := by
  rw [← Pc.listed_eq, Bool.or_eq_false_iff] at h
  exact h.1

/-- J4.1, J5, J6 for one thread -/
structure TInv (s : Sh) (t : Thread) : Prop where
  started : t.startedAfterAck = true → s.flagA = true
  live : t.pc.listed = true → t.epochAtList = s.allowEpoch → s.flagA = false → s.denied = true
  epoch : t.epochAtList ≤ s.allowEpoch

theorem CInv.tinv {c : Cfg} (h : CInv c) : ∀ t ∈ c.threads, TInv c.sh t :=
  fun t ht => ⟨h.j4.1 t ht, fun hl he => h.j5 t ht (liveDeny_iff.2 ⟨hl, he⟩), h.j6 t ht⟩

theorem CInv.of_tinv {c : Cfg} (j1 : c.sh.acked = true → c.sh.flagA = false → c.sh.denied = true)
    (j2 : ∀ k ∈ c.sh.members, k ∈ c.sh.recorded ∨ k ∈ c.sh.cancelled)
    (j3 : c.sh.denied = true → c.sh.flagB = false → pendingClose c = false → c.sh.recorded = [])
    (j4 : 0 < c.sh.sessionsOkAfterAck → c.sh.flagA = true) (hT : ∀ t ∈ c.threads, TInv c.sh t) : CInv c :=
  ⟨j1, j2, j3, ⟨fun t ht => (hT t ht).started, j4⟩,
    fun t ht hl => (hT t ht).live (liveDeny_iff.1 hl).1 (liveDeny_iff.1 hl).2, fun t ht => (hT t ht).epoch⟩

/-- What `CInv` needs of a client step that takes the shared state from `s` to `s'` and the moving thread from `t` to `t'`:
    `CInv.client` rebuilds the invariant from it, `stepClient_respects` proves it of every branch of `stepClient`. -/
structure Respects (s : Sh) (t : Thread) (s' : Sh) (t' : Thread) : Prop where
  -- afterwards: J1, J4.2, and the moving thread's own clauses
  acked : s'.acked = true → s'.flagA = false → s'.denied = true
  okAfter : 0 < s'.sessionsOkAfterAck → s'.flagA = true
  tinv : TInv s' t'
  -- owed to the threads that stand still (`Respects.mono`): `flagA` and the epoch only grow, and the booking stays listed
  -- unless an explicit allow or pattern A intervenes
  flagA : s.flagA = true → s'.flagA = true
  epoch : s.allowEpoch ≤ s'.allowEpoch
  denied : s'.allowEpoch = s.allowEpoch → s'.flagA = false → s.denied = true → s'.denied = true
  -- a client step leaves the hub's bookkeeping alone (J2, and what J3 concludes)
  members : s'.members = s.members
  recorded : s'.recorded = s.recorded
  cancelled : s'.cancelled = s.cancelled
  flagB : s'.flagB = s.flagB
  -- J3's premise carries back: the step neither ends a pending closure nor lists the booking without starting one
  pending : s'.denied = true → s'.queue = 0 → t'.denyInFlight = false →
    s.denied = true ∧ s.queue = 0 ∧ t.denyInFlight = false

theorem Respects.mono {s s' : Sh} {t t' x : Thread} (h : Respects s t s' t') (hx : TInv s x) : TInv s' x := by
  refine ⟨fun e => h.flagA (hx.started e), fun hl he hf => ?_, Nat.le_trans hx.epoch h.epoch⟩
  -- still live in `s'`: epochAtList = s'.allowEpoch ≥ s.allowEpoch ≥ epochAtList, so no allow intervened
  have e : s'.allowEpoch = s.allowEpoch := Nat.le_antisymm (he ▸ hx.epoch) h.epoch
  refine h.denied e hf (hx.live hl (he.trans e) ?_)
  cases hA : s.flagA with
  | false => rfl
  | true => rw [h.flagA hA] at hf; cases hf

theorem CInv.client {s s' : Sh} {t t' : Thread} {l₁ l₂ : List Thread} (hI : CInv ⟨s, l₁ ++ t :: l₂⟩)
    (h : Respects s t s' t') : CInv ⟨s', l₁ ++ t' :: l₂⟩ := by
  have hT := hI.tinv
  simp only [List.forall_mem_append, List.forall_mem_cons] at hT
  refine .of_tinv h.acked ?_ (fun hd hb hp => ?_) h.okAfter ?_
  · show ∀ k ∈ s'.members, k ∈ s'.recorded ∨ k ∈ s'.cancelled
    rw [h.members, h.recorded, h.cancelled]; exact hI.j2
  · obtain ⟨⟨q, f⟩, o⟩ := pendingClose_split.1 hp
    obtain ⟨d, q0, f0⟩ := h.pending hd q f
    exact h.recorded ▸ hI.j3 d (h.flagB ▸ hb) (pendingClose_split.2 ⟨⟨q0, f0⟩, o⟩)
  · simp only [List.forall_mem_append, List.forall_mem_cons]
    exact ⟨fun x hx => h.mono (hT.1 x hx), h.tinv, fun x hx => h.mono (hT.2.2 x hx)⟩

theorem Respects.ite {s : Sh} {t : Thread} {c : Prop} [Decidable c] {x y : Sh × Thread}
    (hx : c → Respects s t x.1 x.2) (hy : ¬c → Respects s t y.1 y.2) :
    Respects s t (if c then x else y).1 (if c then x else y).2 := by
  split
  next hc => exact hx hc
  next hc => exact hy hc

/-- a step that leaves `denied`, `flagA`, the epoch and the hub's bookkeeping alone: all but `Deny`, the two `Allow`s -/
theorem Respects.frame {s : Sh} {t t' : Thread} {cs tr : List Nat} {n k q : Nat} {a : Bool} (hT : TInv s t')
    (j1 : a = true → s.flagA = false → s.denied = true) (j4 : 0 < k → s.flagA = true)
    (hp : s.denied = true → q = 0 → t'.denyInFlight = false → s.queue = 0 ∧ t.denyInFlight = false) :
    Respects s t { s with codes := cs, nextCode := n, toRecord := tr, acked := a, sessionsOkAfterAck := k, queue := q } t' :=
  { acked := j1, okAfter := j4, tinv := ⟨hT.started, hT.live, hT.epoch⟩,
    flagA := id, epoch := Nat.le_refl _, denied := fun _ _ h => h,
    members := rfl, recorded := rfl, cancelled := rfl, flagB := rfl,
    pending := fun d q f => ⟨d, hp d q f⟩ }

theorem Respects.silent {s : Sh} {t : Thread} {cs tr : List Nat} {n k : Nat} {a : Bool} {pc' : Pc} (hT : TInv s t)
    (j1 : a = true → s.flagA = false → s.denied = true) (j4 : 0 < k → s.flagA = true)
    (hf : t.denyInFlight = false) (hl : pc'.listed = false) :
    Respects s t { s with codes := cs, nextCode := n, toRecord := tr, acked := a, sessionsOkAfterAck := k }
      { t with pc := pc' } :=
  .frame ⟨hT.started, fun h => (by rw [hl] at h; cases h), hT.epoch⟩ j1 j4 fun _ q _ => ⟨q, hf⟩

theorem stepClient_respects (s : Sh) (t : Thread) (i : Nat)
    (j1 : s.acked = true → s.flagA = false → s.denied = true) (j4 : 0 < s.sessionsOkAfterAck → s.flagA = true)
    (hT : TInv s t) : Respects s t (stepClient s t i).1 (stepClient s t i).2 := by
  obtain ⟨pc, b, e⟩ := t
  cases pc with
  | sStart =>
    refine .ite (fun _ => .silent hT j1 j4 rfl rfl) fun hd => ?_
    -- acknowledged and not on the list: pattern A has occurred already
    refine .frame ⟨fun ha => ?_, (fun h => nomatch h), hT.epoch⟩ j1 j4 fun d => absurd d hd
    cases hA : s.flagA with
    | true => rfl
    | false => exact absurd (j1 ha hA) hd
  | sChecked =>
    show Respects s _ { s with denied := false, flagA := s.flagA || s.denied } ⟨.sAllowed, b, e⟩
    -- `flagA` stays off only if the booking was not listed, and then nothing that J1 or J5 promise is due
    have hor : ∀ {P : Prop}, (s.flagA || s.denied) = false → (s.flagA = false → s.denied = true) → P :=
      fun h g => by rw [Bool.or_eq_false_iff] at h; rw [g h.1] at h; cases h.2
    have hl : s.flagA = true → (s.flagA || s.denied) = true := fun h => by rw [h]; rfl
    exact { acked := fun ha h => hor h (j1 ha), okAfter := fun h => hl (j4 h),
            tinv := ⟨fun h => hl (hT.started h), (fun h => nomatch h), hT.epoch⟩,
            flagA := hl, epoch := Nat.le_refl _, denied := fun _ h d => hor h fun _ => d,
            members := rfl, recorded := rfl, cancelled := rfl, flagB := rfl, pending := fun d => nomatch d }
  | sMinted =>
    refine .silent hT j1 (fun h => ?_) rfl rfl
    cases b with
    | true => exact hT.started rfl
    | false => exact j4 h
  | dStart =>
    show Respects s _ { s with denied := true } ⟨.dListed, b, s.allowEpoch⟩
    exact { acked := fun _ _ => rfl, okAfter := j4, tinv := ⟨hT.started, fun _ _ _ => rfl, Nat.le_refl _⟩,
            flagA := id, epoch := Nat.le_refl _, denied := fun _ _ _ => rfl,
            members := rfl, recorded := rfl, cancelled := rfl, flagB := rfl, pending := fun _ _ f => nomatch f }
  | dListed =>
    show Respects s _ { s with codes := [] } ⟨.dPurged, b, e⟩
    exact .frame ⟨hT.started, fun _ => hT.live rfl, hT.epoch⟩ j1 j4 fun _ _ f => nomatch f
  | dPurged =>
    show Respects s _ { s with queue := s.queue + 1 } ⟨.dNotified, b, e⟩
    exact .frame ⟨hT.started, fun _ => hT.live rfl, hT.epoch⟩ j1 j4 fun _ q => nomatch q
  | dNotified =>
    refine .silent hT (fun ha => ?_) j4 rfl rfl
    -- the acknowledgement counts only if this deny is still live, and then J5 says the booking is listed
    rw [Bool.or_eq_true, decide_eq_true_eq] at ha
    exact ha.elim j1 fun ha => hT.live rfl ha.symm
  | aStart =>
    show Respects s _ { s with denied := false, acked := false, allowEpoch := s.allowEpoch + 1 } ⟨.aDone, b, e⟩
    exact { acked := (fun h => nomatch h), okAfter := j4, tinv := ⟨hT.started, (fun h => nomatch h), Nat.le_succ_of_le hT.epoch⟩,
            flagA := id, epoch := Nat.le_succ _, denied := fun e => absurd e (Nat.succ_ne_self _),
            members := rfl, recorded := rfl, cancelled := rfl, flagB := rfl, pending := fun d => nomatch d }
  | wPre c =>
    -- whatever branch is taken, only `codes` and this thread's pc change
    exact .ite (fun _ => .ite (fun _ => .silent hT j1 j4 rfl rfl) fun _ => .silent hT j1 j4 rfl rfl)
      fun _ => .silent hT j1 j4 rfl rfl
  | _ => exact .silent hT j1 j4 rfl rfl

/-- the relay's own threads touch neither the thread table nor what J1, J4, J5, J6 read -/
theorem CInv.sys {c : Cfg} (hI : CInv c) {tr ms rc cn : List Nat} {q : Nat} {fb : Bool}
    (j2 : ∀ k ∈ ms, k ∈ rc ∨ k ∈ cn)
    (j3 : c.sh.denied = true → fb = false → (decide (q > 0) || c.threads.any Thread.denyInFlight) = false → rc = []) :
    CInv ⟨{ c.sh with toRecord := tr, members := ms, recorded := rc, cancelled := cn, queue := q, flagB := fb }, c.threads⟩ :=
  ⟨hI.j1, j2, j3, hI.j4, hI.j5, hI.j6⟩

theorem Pc.not_listed_of_isStart {pc : Pc} (h : pc.isStart = true) : pc.listed = false := by
  cases pc with
  | dListed | dPurged | dNotified => cases h
  | _ => rfl

theorem step_cinv (c : Cfg) (a : Act) (hI : CInv c) : CInv (step c a) := by
  cases a with
  | client i =>
    cases ht : c.threads[i]? with
    | none => simp only [step, ht]; exact hI
    | some t =>
      obtain ⟨s, l⟩ := c
      obtain ⟨l₁, l₂, rfl, hset⟩ := split_of_getElem? ht
      simp only [step, ht, hset]
      exact hI.client (stepClient_respects s t i hI.j1 hI.j4.2 (hI.tinv t (by simp)))
  | spawn pc =>
    simp only [step]
    split
    · rename_i hs
      have hl := Pc.not_listed_of_isStart hs
      refine .of_tinv hI.j1 hI.j2 (fun h1 h2 h3 => hI.j3 h1 h2 ?_) hI.j4.2 ?_
      · simp only [pendingClose, List.any_append, List.any_cons, List.any_nil, Bool.or_false] at h3 ⊢
        rw [Thread.not_inFlight (t := ⟨pc, false, 0⟩) hl, Bool.or_false] at h3
        exact h3
      · simp only [List.forall_mem_append, List.forall_mem_singleton]
        exact ⟨hI.tinv, (fun h => nomatch h), fun h => (by rw [hl] at h; cases h), Nat.zero_le _⟩
    · exact hI
  | sys x =>
    cases x with
    | hubRecord =>
      simp only [step, stepSys]
      split
      · exact hI
      · -- recorded with the booking listed and nothing pending sets `flagB`: J3 has nothing to show
        refine hI.sys (fun m hm => ?_) fun h1 h2 h3 => ?_
        · rw [List.mem_append, List.mem_singleton] at hm ⊢
          exact hm.elim (fun hm => (hI.j2 m hm).imp_left .inl) fun hm => .inl (.inr hm)
        · have h3 : pendingClose c = false := h3
          rw [h1, h3, Bool.true_and, Bool.not_false, Bool.or_true] at h2
          cases h2
    | crossbar =>
      simp only [step, stepSys]
      split
      · exact hI.sys (fun m hm => .inr ((hI.j2 m hm).elim (List.mem_append_right _) (List.mem_append_left _)))
          fun _ _ _ => rfl
      · exact hI
    | teardown k =>
      simp only [step, stepSys]
      split
      · exact hI.sys (fun m hm => hI.j2 m (List.mem_of_mem_erase hm)) hI.j3
      · exact hI

theorem cinv_init : CInv {} :=
  ⟨(fun h => nomatch h), (fun _ h => nomatch h), fun _ _ _ => rfl, ⟨(fun _ h => nomatch h), fun h => nomatch h⟩,
    (fun _ h => nomatch h), fun _ h => nomatch h⟩

theorem run_cinv (acts : List Act) : CInv (run acts) :=
  List.foldlRecOn acts step cinv_init fun c h a _ => step_cinv c a h

theorem CInv.sticks {c : Cfg} (hI : CInv c) (hA : c.sh.flagA = false) (hB : c.sh.flagB = false)
    (hack : c.sh.acked = true) :
    c.sh.denied = true ∧ c.sh.sessionsOkAfterAck = 0 ∧
      (pendingClose c = false → ∀ k ∈ c.sh.members, k ∈ c.sh.cancelled) := by
  have hd := hI.j1 hack hA
  refine ⟨hd, Nat.eq_zero_of_not_pos fun h => ?_, fun hp k hk => (hI.j2 k hk).resolve_left ?_⟩
  · rw [hI.j4.2 h] at hA; cases hA
  · rw [hI.j3 hd hB hp]; exact List.not_mem_nil

theorem Thread.not_listed_of_isDone {t : Thread} (h : t.isDone = true) : t.pc.listed = false := by
  obtain ⟨pc, _, _⟩ := t
  cases pc with
  | dListed | dPurged | dNotified => cases h
  | _ => rfl

/-- at quiescence nothing is pending: the queue is empty and every deny request has been answered -/
theorem quiescent_not_pending (c : Cfg) (hq : quiescent c = true) : pendingClose c = false := by
  simp only [quiescent, Bool.and_eq_true, beq_iff_eq, List.all_eq_true] at hq
  obtain ⟨⟨⟨hdone, hqueue⟩, _⟩, _⟩ := hq
  rw [pendingClose, hqueue, Bool.or_eq_false_iff]
  refine ⟨rfl, List.any_eq_false.2 fun t ht => ?_⟩
  rw [Thread.not_inFlight (Thread.not_listed_of_isDone (hdone t ht))]
  exact Bool.false_ne_true

/-- the positive half: an execution in which neither race occurred keeps every acknowledged deny in effect -/
theorem deny_sticks_without_races (acts : List Act) (hq : quiescent (run acts) = true)
    (hA : (run acts).sh.flagA = false) (hB : (run acts).sh.flagB = false) : denySticks (run acts) = true := by
  rw [denySticks, Bool.or_eq_true, Bool.not_eq_true']
  cases hack : (run acts).sh.acked with
  | false => exact .inl rfl
  | true =>
    obtain ⟨hd, hs, hm⟩ := (run_cinv acts).sticks hA hB hack
    -- a member would be cancelled, and then its tear-down is still enabled: not quiescent
    have hm := hm (quiescent_not_pending _ hq)
    simp only [quiescent, Bool.and_eq_true, List.all_eq_true, Bool.not_eq_true', List.contains_eq_mem,
      decide_eq_false_iff_not] at hq
    have hnil : (run acts).sh.members = [] := List.eq_nil_iff_forall_not_mem.2 fun k hk => hq.2 k hk (hm k hk)
    right
    rw [hd, hnil, hs]; rfl

/-- **classification**: every execution — any number of requests, any interleaving — that ends in a
    quiescent configuration violating `denySticks` contains pattern A or pattern B. -/
theorem violations_are_the_two_shapes (acts : List Act) (hq : quiescent (run acts) = true) :
    denySticks (run acts) = true ∨ (run acts).sh.flagA = true ∨ (run acts).sh.flagB = true := by
  cases hA : (run acts).sh.flagA with
  | true => exact .inr (.inl rfl)
  | false =>
    cases hB : (run acts).sh.flagB with
    | true => exact .inr (.inr rfl)
    | false => exact .inl (deny_sticks_without_races acts hq hA hB)

/-- not vacuous: race-free executions with an acknowledged deny exist (and end with the deny in effect) -/
example : let c := run [.spawn .sStart, .client 0, .client 0, .client 0, .client 0, .spawn (.wStart 0), .client 1, .client 1, .client 1,
                        .sys .hubRecord, .client 1, .spawn .dStart, .client 2, .client 2, .client 2, .sys .crossbar, .client 2, .sys (.teardown 1)]
    quiescent c = true ∧ c.sh.acked = true ∧ c.sh.flagA = false ∧ c.sh.flagB = false ∧ c.sh.members = [] := by decide

/-- the flags do not fire on benign overlap: a session that runs entirely while a deny is in flight but before it lists -/
example : let c := run [.spawn .dStart, .spawn .sStart, .client 1, .client 1, .client 1, .client 1, .client 0, .client 0, .client 0, .sys .crossbar, .client 0]
    quiescent c = true ∧ c.sh.acked = true ∧ c.sh.flagA = false ∧ c.sh.flagB = false ∧ denySticks c = true := by decide

/-- and the two shapes really are what happens in the two recorded races (`scheduleK1`, `scheduleK2` of `Props/C07.lean`) -/
theorem k1_is_pattern_A : (run [.spawn .sStart, .client 0, .spawn .dStart, .client 1, .client 1, .client 1, .sys .crossbar, .client 1,
                                .client 0, .client 0, .client 0]).sh.flagA = true := by decide

theorem k2_is_pattern_B : (run [.spawn .sStart, .client 0, .client 0, .client 0, .client 0, .spawn (.wStart 0), .client 1, .client 1,
                                .spawn .dStart, .client 2, .client 2, .client 2, .sys .crossbar, .client 2,
                                .client 1, .sys .hubRecord, .client 1]).sh.flagB = true := by decide

end Conc
