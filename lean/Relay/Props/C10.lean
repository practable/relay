import Relay.Model.Deny

/-!
# C10 — deny and allow lists behave as one consistent register

Theorems (all for every operation history, any ids, any expiry values, any clock moves):
* `reg_disjoint`            no id is ever on both lists
* `reg_refines_cell`        per id, the register is a single cell holding the latest decision
                            (latest deny/allow wins; prune removes exactly own-expiry < now;
                            operations on other ids are invisible: frame)
* `prune_exact`             an id survives a prune iff it was present with expiry ≥ now
* `only_own_expiry_removes` an id leaves the register only by a prune with its own expiry < now
* `lists_exact`             the list endpoints return exactly the ids whose status is that list
* `bad_params_noop`         empty id / past expiry change nothing and answer 400
-/

namespace Deny
open KV

/-- representation invariant -/
structure Inv (r : Reg) : Prop where
  nda : NoDupKeys r.allow
  ndd : NoDupKeys r.deny
  disj : ∀ id, lookup r.allow id = none ∨ lookup r.deny id = none

theorem inv_init : Inv {} := ⟨trivial, trivial, fun _ => Or.inl rfl⟩

/-- **C10 (vi)**: requests with an empty id or an expiry in the past change nothing (400). -/
theorem bad_params_noop (r : Reg) (id : String) (e : Int) (h : id = "" ∨ e < r.now) :
    step r (.denyReq id e) = r ∧ step r (.allowReq id e) = r ∧ reqStatus r id e = 400 := by
  rcases h with h | h
  · simp [step, reqStatus, h]
  · by_cases h1 : id = "" <;> simp [step, reqStatus, h, h1]

/-- and good parameters are acted upon (so the guard is exactly the stated one) -/
theorem good_params_act (r : Reg) (id : String) (e : Int) (h1 : id ≠ "") (h2 : ¬ e < r.now) :
    step r (.denyReq id e) = step r (.deny id e) ∧ step r (.allowReq id e) = step r (.allow id e)
      ∧ reqStatus r id e = 204 := by
  simp [step, reqStatus, h1, h2]

theorem step_inv (r : Reg) (op : Op) (h : Inv r) : Inv (step r op) := by
  -- the invariant does not tell the two lists apart: an allow is a deny with the lists swapped
  have swap {a d : KV Int} {n : Int} (h : Inv { allow := a, deny := d, now := n }) :
      Inv { allow := d, deny := a, now := n } :=
    { nda := h.ndd, ndd := h.nda, disj := fun i => (h.disj i).symm }
  have move {a d : KV Int} {n : Int} (h : Inv { allow := a, deny := d, now := n }) (k : String) (e : Int) :
      Inv { allow := erase a k, deny := insert d k e, now := n } := by
    refine ⟨nodup_erase _ _ h.nda, nodup_insert _ _ _ h.ndd, fun i => ?_⟩
    by_cases hk : k = i
    · exact .inl (hk ▸ lookup_erase_self a k)
    · show lookup (erase a k) i = none ∨ lookup (insert d k e) i = none
      rw [lookup_erase_ne a hk, lookup_insert_ne d e hk]
      exact h.disj i
  have hd (k e) : Inv (step r (.deny k e)) := move h k e
  have ha (k e) : Inv (step r (.allow k e)) := swap (move (swap h) k e)
  cases op with
  | allow k e => exact ha k e
  | deny k e => exact hd k e
  | prune =>
    exact ⟨nodup_keep _ _ h.nda, nodup_keep _ _ h.ndd,
      fun i => (h.disj i).imp (lookup_keep_none _ _ _) (lookup_keep_none _ _ _)⟩
  | setNow t => exact ⟨h.nda, h.ndd, h.disj⟩
  | denyReq k e =>
    by_cases g : k = "" ∨ e < r.now
    · rw [(bad_params_noop r k e g).1]; exact h
    · rw [(good_params_act r k e (mt .inl g) (mt .inr g)).1]; exact hd k e
  | allowReq k e =>
    by_cases g : k = "" ∨ e < r.now
    · rw [(bad_params_noop r k e g).2.1]; exact h
    · rw [(good_params_act r k e (mt .inl g) (mt .inr g)).2.1]; exact ha k e

theorem run_inv (ops : List Op) (r : Reg) (h : Inv r) : Inv (run ops r) :=
  List.foldlRecOn ops step h (fun r hr op _ => step_inv r op hr)

private theorem status_prune (r : Reg) (id : String) (h : Inv r) :
    status (step r .prune) id
      = match status r id with
        | .absent => .absent
        | .allowed e => if e < r.now then .absent else .allowed e
        | .denied e => if e < r.now then .absent else .denied e := by
  have keep_fresh (v : Int) : (if fresh r.now id v then some v else none) = if v < r.now then none else some v := by
    unfold fresh
    by_cases hv : v < r.now
    · rw [if_pos hv, decide_eq_true hv]; rfl
    · rw [if_neg hv, decide_eq_false hv]; rfl
  simp only [step, status, lookup_keep_of_nodup _ _ _ h.nda, lookup_keep_of_nodup _ _ _ h.ndd]
  rcases h.disj id with h0 | h0 <;> rw [h0]
  · cases lookup r.deny id with
    | none => rfl
    | some e => by_cases he : e < r.now <;> simp only [Option.bind, keep_fresh, he, if_true, if_false]
  · cases lookup r.allow id with
    | none => rfl
    | some e => by_cases he : e < r.now <;> simp only [Option.bind, keep_fresh, he, if_true, if_false]

theorem step_refines (r : Reg) (op : Op) (id : String) (h : Inv r) :
    (status (step r op) id, (step r op).now) = specStep id (status r id, r.now) op := by
  have hd (k e) : (status (step r (.deny k e)) id, r.now) = specStep id (status r id, r.now) (.deny k e) := by
    by_cases hk : k = id <;> simp [status, step, specStep, hk, lookup_erase_ne, lookup_insert_ne]
  have ha (k e) : (status (step r (.allow k e)) id, r.now) = specStep id (status r id, r.now) (.allow k e) := by
    by_cases hk : k = id <;> simp [status, step, specStep, hk, lookup_erase_ne, lookup_insert_ne]
  cases op with
  | allow k e => exact ha k e
  | deny k e => exact hd k e
  | prune =>
    show (status (step r .prune) id, r.now) = specStep id (status r id, r.now) .prune
    rw [status_prune r id h]
    -- the two sides differ only in where the clock is paired on: around the `if`, or in each of its branches
    cases status r id with
    | absent => rfl
    | allowed e => by_cases he : e < r.now <;> simp only [specStep, he, if_true, if_false]
    | denied e => by_cases he : e < r.now <;> simp only [specStep, he, if_true, if_false]
  | setNow t => rfl
  | denyReq k e =>
    by_cases g : k = "" ∨ e < r.now
    · rw [(bad_params_noop r k e g).1]; exact (if_neg fun ⟨_, a, b⟩ => g.elim a b).symm
    · have ⟨g1, g2⟩ := not_or.1 g
      rw [(good_params_act r k e g1 g2).1]
      exact (hd k e).trans (by simp [specStep, g1, g2])
  | allowReq k e =>
    by_cases g : k = "" ∨ e < r.now
    · rw [(bad_params_noop r k e g).2.1]; exact (if_neg fun ⟨_, a, b⟩ => g.elim a b).symm
    · have ⟨g1, g2⟩ := not_or.1 g
      rw [(good_params_act r k e g1 g2).2.1]
      exact (ha k e).trans (by simp [specStep, g1, g2])

theorem run_refines (ops : List Op) (r : Reg) (id : String) (h : Inv r) :
    (status (run ops r) id, (run ops r).now) = spec id ops (status r id, r.now) := by
  unfold run spec
  induction ops generalizing r with
  | nil => rfl
  | cons op ops ih =>
    simp only [List.foldl_cons]
    rw [ih (step r op) (step_inv r op h), step_refines r op id h]

/-- **C10 (ii)**: for every history and every id, the register's answer about the id is the
    one the single-cell specification gives: the most recent deny/allow of *that id* that has
    not been pruned away; operations on other ids never matter. -/
theorem reg_refines_cell (ops : List Op) (id : String) :
    status (run ops) id = (spec id ops).1 :=
  congrArg Prod.fst (run_refines ops {} id inv_init)

/-- latest-wins as a direct corollary: right after a deny (allow) of `id`, its status is that. -/
theorem reg_latest_wins_deny (ops : List Op) (id : String) (e : Int) :
    status (run (ops ++ [.deny id e])) id = .denied e := by
  rw [reg_refines_cell]; simp [spec, specStep]

theorem reg_latest_wins_allow (ops : List Op) (id : String) (e : Int) :
    status (run (ops ++ [.allow id e])) id = .allowed e := by
  rw [reg_refines_cell]; simp [spec, specStep]

/-- **C10 (iii)** prune is exact -/
theorem prune_exact (ops : List Op) (id : String) :
    let r := run ops
    status (step r .prune) id =
      match status r id with
      | .absent => .absent
      | .allowed e => if e < r.now then .absent else .allowed e
      | .denied e => if e < r.now then .absent else .denied e :=
  status_prune _ id (run_inv ops {} inv_init)

theorem specStep_absent (id : String) (s : Status) (n : Int) (op : Op) (hp : s ≠ .absent)
    (hg : (specStep id (s, n) op).1 = .absent) :
    op = .prune ∧ ∃ e, (s = .allowed e ∨ s = .denied e) ∧ e < n := by
  cases op with
  | allow k e | deny k e | denyReq k e | allowReq k e =>
    simp only [specStep] at hg
    split at hg
    · cases hg
    · exact absurd hg hp
  | setNow t => exact absurd hg hp
  | prune =>
    refine ⟨rfl, ?_⟩
    cases s with
    | absent => exact absurd rfl hp
    | allowed e =>
      simp only [specStep] at hg
      split at hg
      next he => exact ⟨e, .inl rfl, he⟩
      next => cases hg
    | denied e =>
      simp only [specStep] at hg
      split at hg
      next he => exact ⟨e, .inr rfl, he⟩
      next => cases hg

/-- **C10 (iv)**: an entry disappears only by a prune when its own expiry has passed. -/
theorem only_own_expiry_removes (ops : List Op) (op : Op) (id : String)
    (hpresent : status (run ops) id ≠ .absent)
    (hgone : status (step (run ops) op) id = .absent) :
    op = .prune ∧ ∃ e, (status (run ops) id = .allowed e ∨ status (run ops) id = .denied e) ∧
      e < (run ops).now :=
  specStep_absent id _ _ op hpresent <|
    (congrArg Prod.fst (step_refines (run ops) op id (run_inv ops {} inv_init))).symm.trans hgone

/-- **C10 (i)**: at any time a booking id is on at most one of the two lists. -/
theorem reg_disjoint (ops : List Op) (id : String) :
    ¬ (isAllowed (run ops) id = true ∧ isDenied (run ops) id = true) := by
  have h := (run_inv ops {} inv_init).disj id
  simp only [isAllowed, isDenied, has]
  rcases h with h | h <;> simp [h]

/-- **C10 (v)**: the list endpoints (key sets of the two maps) are exactly the ids with that
    status. -/
theorem lists_exact (ops : List Op) (id : String) :
    (id ∈ keys (run ops).deny ↔ ∃ e, status (run ops) id = .denied e) ∧
    (id ∈ keys (run ops).allow ↔ ∃ e, status (run ops) id = .allowed e) := by
  have hI := run_inv ops {} inv_init
  rw [mem_keys_iff_has, mem_keys_iff_has]
  simp only [has, status]
  rcases hI.disj id with h | h
  · cases hd : lookup (run ops).deny id <;> simp [h]
  · cases ha : lookup (run ops).allow id <;> simp [h]

/-! ### non-vacuity: a concrete history exercising every clause -/
example :
    let ops := [Op.setNow 100, .denyReq "b1" 150, .allowReq "b2" 120, .deny "b2" 130,
                .setNow 125, .prune, .allow "b1" 124, .setNow 126, .prune]
    status (run ops) "b1" = .absent ∧ status (run ops) "b2" = .denied 130 := by
  decide

end Deny
