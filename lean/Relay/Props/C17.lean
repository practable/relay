import Relay.Model.Flush

/-!
# C17 — what the experiment sends into the host is what leaves it

For the code in /repo today (`copyOnFlush = true`), for EVERY maximum, every byte stream, every split
of it into writes, every placement of idle flushes between the writes, every choice of which
subscriber queues take which message, and every delay before a consumer looks at a message:

* `output_is_ordered_slices`   what consumer `i` has read is, message by message, the input slice
                               `[a_k, b_k)` of the flush that made it, with `a_1 ≤ b_1 ≤ a_2 ≤ b_2 ≤ … ≤ |input|`
                               (contiguous, non-overlapping, never repeating or going backwards)
* `ordered_slices_hold`        the same in existential form (`OutputIsOrderedSlices`)
* `drops_exact`                the cuts of all flushes tile the flushed part of the input: the next message
                               starts exactly where the previous drop ends, a message is 1..max bytes, bytes are
                               dropped only behind a message of exactly `max` bytes, and what is neither in a
                               cut nor dropped is still in the accumulation buffer
* `lossless_when_within_max`   if no flush ever found more than `max` bytes, a consumer that took and read every
                               message has read exactly the flushed input, concatenated
* `content_fixed_at_handoff`   the content read is the content the message had when it was handed on, and
                               the unread messages do not depend on the flush array at all
* `ws_messages_in_order`       websocket ingest: what a consumer has read is a prefix of the posted messages
                               its queue took, each whole and unchanged
For the code before 833d3d2 (`copyOnFlush = false`):
* `aliasing_reads_B_B`         chunks A then B of equal length, both flushed, then read: the consumer reads B, B
* `aliasing_corrupts`          hence both properties are false for it (negation, concrete witness)
* `aliasing_partial`           but a consumer that reads every message before the next flush is served correctly
-/

namespace Flush

theorem slice_append_left (inp ch : Bytes) (a b : Nat) (h : b ≤ inp.length) :
    slice (inp ++ ch) a b = slice inp a b := by
  unfold slice
  rw [List.drop_append, List.take_append, List.length_drop]
  have : b - a - (inp.length - a) = 0 := by omega
  rw [this, List.take_zero, List.append_nil]

theorem slice_adj (inp : Bytes) (a b c : Nat) (h1 : a ≤ b) (h2 : b ≤ c) :
    slice inp a b ++ slice inp b c = slice inp a c := by
  obtain ⟨k, rfl⟩ := Nat.exists_eq_add_of_le h1
  obtain ⟨l, rfl⟩ := Nat.exists_eq_add_of_le h2
  rw [slice, slice, slice, Nat.add_sub_cancel_left, Nat.add_sub_cancel_left, Nat.add_assoc, Nat.add_sub_cancel_left,
    List.take_add, List.drop_drop]

theorem prefix_of_append_eq {α : Type} (l1 l2 l : List α) (h : l1 ++ l2 = l) :
    l1 = l.take l1.length ∧ l1.length ≤ l.length := by
  subst h
  exact ⟨by simp, by simp⟩

def AllVal (q : List Msg) : Prop := ∀ m ∈ q, ∃ b, m = Msg.val b

theorem content_allval (q : List Msg) (h : AllVal q) (r1 r2 : Bytes) :
    q.map (content r1) = q.map (content r2) := by
  apply List.map_congr_left
  intro m hm
  obtain ⟨b, rfl⟩ := h m hm
  rfl

/-- a consumer that only ever got copies -/
structure Good (c : Cons) : Prop where
  allval : AllVal c.queue
  fixed : c.out ++ c.queue.map (content []) = c.handed

/-- views included: read ++ unread (looked up in the flush array `raw`) = handed on -/
def Fixed (raw : Bytes) (c : Cons) : Prop := c.out ++ c.queue.map (content raw) = c.handed

theorem fixed_read {raw : Bytes} {c : Cons} (h : Fixed raw c) : Fixed raw (c.read raw) := by
  obtain ⟨q, o, hd⟩ := c
  cases q with
  | nil => exact h
  | cons m q => exact (List.append_assoc o [content raw m] _).trans h

theorem Good.fixedAt {c : Cons} (h : Good c) (raw : Bytes) : Fixed raw c :=
  (content_allval _ h.allval raw [] ▸ h.fixed : c.out ++ c.queue.map (content raw) = c.handed)

theorem good_init : Good {} := ⟨fun _ h => (nomatch h), rfl⟩

theorem good_deliver (c : Cons) (f : Bytes) (h : Good c) : Good (c.deliver (.val f) f) := by
  refine ⟨fun m hm => (List.mem_append.1 hm).elim (h.allval m) fun hm => ⟨f, List.mem_singleton.1 hm⟩, ?_⟩
  simp only [Cons.deliver, List.map_append, List.map_cons, List.map_nil, content]
  rw [← List.append_assoc, h.fixed]

theorem read_queue (c : Cons) (raw : Bytes) : (c.read raw).queue = c.queue.tail := by
  obtain ⟨q, _, _⟩ := c
  cases q <;> rfl

theorem good_read (c : Cons) (raw : Bytes) (h : Good c) : Good (c.read raw) := by
  have hv : AllVal (c.read raw).queue := fun m hm => h.allval m (List.mem_of_mem_tail (read_queue c raw ▸ hm))
  -- read in `raw`; what stays queued are values, whose content is the same looked up in `[]`
  exact ⟨hv, content_allval _ hv raw [] ▸ fixed_read (h.fixedAt raw)⟩

theorem read_handed (c : Cons) (raw : Bytes) : (c.read raw).handed = c.handed := by
  unfold Cons.read
  cases c.queue <;> rfl

theorem step_good (max : Nat) (s : St) (op : Op) (h : ∀ i, Good (s.cons i)) :
    ∀ i, Good ((step ⟨max, true⟩ s op).cons i) := by
  intro i
  cases op with
  | write ch => exact h i
  | flush acpt =>
    by_cases hn : min s.acc.length max = 0 <;> simp only [step, hn, ↓reduceIte]
    · exact h i
    · split
      · exact good_deliver _ _ (h i)
      · exact h i
  | read j =>
    simp only [step]
    split
    · exact good_read _ _ (h i)
    · exact h i

theorem runFrom_good (max : Nat) (ops : List Op) (s : St) (h : ∀ i, Good (s.cons i)) :
    ∀ i, Good ((runFrom ⟨max, true⟩ s ops).cons i) :=
  List.foldlRecOn ops _ h fun s hs op _ => step_good max s op hs

/-- what ties the heap state to the position bookkeeping (any `copyOnFlush`) -/
structure Inv (inp : Bytes) (s : St) (p : Pos) : Prop where
  wr : p.written = inp.length
  le : p.start ≤ p.written
  acc : s.acc = inp.drop p.start
  cb : ∀ x ∈ p.cuts, x.1.b ≤ inp.length
  handed : ∀ i, (s.cons i).handed = (cutsOf i p.cuts).map (sliceOf inp)

theorem inv_init : Inv [] {} {} := ⟨rfl, Nat.le_refl _, rfl, fun _ h => (nomatch h), fun _ => rfl⟩

theorem cutsOf_snoc (i : Nat) (cs : List (Cut × List Nat)) (x : Cut) (a : List Nat) :
    cutsOf i (cs ++ [(x, a)]) = if i ∈ a then cutsOf i cs ++ [x] else cutsOf i cs := by
  unfold cutsOf
  rw [List.filter_append]
  by_cases h : i ∈ a <;> simp [h]

def inputStep (inp : Bytes) : Op → Bytes
  | .write ch => inp ++ ch
  | _ => inp

theorem step_inv (cfg : Cfg) (inp : Bytes) (s : St) (p : Pos) (op : Op) (h : Inv inp s p) :
    Inv (inputStep inp op) (step cfg s op) (posStep cfg.max p op) := by
  obtain ⟨hwr, hle, hacc, hcb, hh⟩ := h
  cases op with
  | write ch =>
    have hl : (inp ++ ch).length = inp.length + ch.length := List.length_append
    refine {
      wr := by rw [inputStep, hl, ← hwr]; rfl
      le := Nat.le_add_right_of_le hle
      acc := by rw [inputStep, List.drop_append_of_le_length (hwr ▸ hle)]; exact congrArg (· ++ ch) hacc
      cb := fun x hx => by rw [inputStep, hl]; exact Nat.le_add_right_of_le (hcb x hx)
      handed := fun i => (hh i).trans (List.map_congr_left fun x hx => ?_) }
    -- a cut ends inside the old input, so its slice does not see the appended chunk
    obtain ⟨y, hy, rfl⟩ := List.mem_map.mp hx
    exact (slice_append_left inp ch _ _ (hcb y (List.mem_filter.mp hy).1)).symm
  | flush acpt =>
    have hlen : s.acc.length = p.written - p.start := by
      rw [hacc, List.length_drop, hwr]
    have hacc' : ([] : Bytes) = inp.drop p.written := by rw [hwr]; exact List.drop_length.symm
    by_cases hn : min (p.written - p.start) cfg.max = 0 <;>
      simp only [step, posStep, inputStep, hlen, hn, ↓reduceIte]
    · exact ⟨hwr, Nat.le_refl _, hacc', hcb, hh⟩
    · refine ⟨hwr, Nat.le_refl _, hacc', fun x hx => ?_, fun i => ?_⟩
      · rcases List.mem_append.1 hx with hx | hx
        · exact hcb x hx
        · rw [List.mem_singleton.1 hx, ← hwr]
          exact Nat.add_le_of_le_sub' hle (Nat.min_le_left ..)
      · simp only [cutsOf_snoc]
        split
        · -- the frame taken from the buffer is the slice the new cut names
          simp only [Cons.deliver, List.map_append, List.map_cons, List.map_nil, hh i, sliceOf, slice,
            Nat.add_sub_cancel_left, hacc]
        · exact hh i
  | read j =>
    refine ⟨hwr, hle, hacc, hcb, fun i => ?_⟩
    simp only [step]
    split
    · rw [read_handed]; exact hh i
    · exact hh i

theorem inputFrom_cons (inp : Bytes) (op : Op) (ops : List Op) :
    inputFrom inp (op :: ops) = inputFrom (inputStep inp op) ops := by
  unfold inputFrom
  simp only [List.foldl_cons]
  cases op <;> rfl

theorem runFrom_inv (cfg : Cfg) (ops : List Op) (inp : Bytes) (s : St) (p : Pos) (h : Inv inp s p) :
    Inv (inputFrom inp ops) (runFrom cfg s ops) (posFrom cfg.max p ops) := by
  induction ops generalizing inp s p with
  | nil => simpa [inputFrom, runFrom, posFrom] using h
  | cons op ops ih =>
    rw [inputFrom_cons]
    exact ih _ _ _ (step_inv cfg inp s p op h)

theorem forward_le : ∀ (cs : List Cut) (lo hi : Nat), Forward lo cs hi → lo ≤ hi
  | [], _, _, h => h
  | x :: r, lo, hi, h => by
    obtain ⟨h1, h2, h3⟩ := h
    have := forward_le r x.b hi h3
    omega

theorem forward_hi : ∀ (cs : List Cut) (lo hi hi' : Nat), Forward lo cs hi → hi ≤ hi' → Forward lo cs hi'
  | [], _, _, _, h, h' => Nat.le_trans h h'
  | x :: r, _, hi, hi', h, h' => ⟨h.1, h.2.1, forward_hi r x.b hi hi' h.2.2 h'⟩

theorem forward_snoc : ∀ (cs : List Cut) (lo mid : Nat) (x : Cut) (hi : Nat),
    Forward lo cs mid → mid ≤ x.a → x.a ≤ x.b → x.b ≤ hi → Forward lo (cs ++ [x]) hi
  | [], _, _, _, _, h, h1, h2, h3 => ⟨Nat.le_trans h h1, h2, h3⟩
  | y :: r, _, mid, x, hi, h, h1, h2, h3 => ⟨h.1, h.2.1, forward_snoc r y.b mid x hi h.2.2 h1 h2 h3⟩

theorem tiles_snoc (max : Nat) : ∀ (cs : List Cut) (lo mid : Nat) (x : Cut),
    Tiles max lo cs mid → x.a = mid → x.a < x.b → x.b ≤ x.c → x.b - x.a ≤ max →
    (x.b < x.c → x.b - x.a = max) → Tiles max lo (cs ++ [x]) x.c
  | [], _, _, _, h, h1, h2, h3, h4, h5 => ⟨by rw [h1]; exact h.symm, h2, h3, h4, h5, rfl⟩
  | y :: r, _, mid, x, h, h1, h2, h3, h4, h5 => by
    -- what `Tiles` says of the first cut `y` stays; `x` is appended to the cuts after it
    obtain ⟨hy1, hy2, hy3, hy4, hy5, hrest⟩ := h
    exact ⟨hy1, hy2, hy3, hy4, hy5, tiles_snoc max r y.c mid x hrest h1 h2 h3 h4 h5⟩

structure PosOK (max : Nat) (p : Pos) : Prop where
  le : p.start ≤ p.written
  fwd : ∀ i, Forward 0 (cutsOf i p.cuts) p.start
  tiles : 0 < max → Tiles max 0 (p.cuts.map (·.1)) p.start

theorem posOK_init (max : Nat) : PosOK max {} := ⟨Nat.le_refl _, fun _ => Nat.le_refl _, fun _ => rfl⟩

theorem posStep_ok (max : Nat) (p : Pos) (op : Op) (h : PosOK max p) : PosOK max (posStep max p op) := by
  obtain ⟨hle, hf, ht⟩ := h
  cases op with
  | write ch => exact ⟨Nat.le_add_right_of_le hle, hf, ht⟩
  | read j => exact ⟨hle, hf, ht⟩
  | flush acpt =>
    by_cases hn : min (p.written - p.start) max = 0 <;> simp only [posStep, hn, ↓reduceIte]
    · refine ⟨Nat.le_refl _, fun i => forward_hi _ _ _ _ (hf i) hle, fun hm => ?_⟩
      -- nothing was flushed although `0 < max`: the buffer was empty
      have : p.start = p.written := by omega
      rw [← this]; exact ht hm
    · have hb := Nat.add_le_of_le_sub' hle (Nat.min_le_left (p.written - p.start) max)
      refine ⟨Nat.le_refl _, fun i => ?_, fun hm => ?_⟩
      · rw [cutsOf_snoc]
        split
        · exact forward_snoc _ _ _ _ _ (hf i) (Nat.le_refl _) (Nat.le_add_right ..) hb
        · exact forward_hi _ _ _ _ (hf i) hle
      · rw [List.map_append]
        refine tiles_snoc max _ 0 p.start ⟨p.start, p.start + min (p.written - p.start) max, p.written⟩
          (ht hm) rfl (Nat.lt_add_of_pos_right (Nat.pos_of_ne_zero hn)) hb ?_ ?_ <;>
          simp only [Nat.add_sub_cancel_left]
        · exact Nat.min_le_right ..
        · omega

theorem posFrom_ok (max : Nat) (ops : List Op) (p : Pos) (h : PosOK max p) : PosOK max (posFrom max p ops) :=
  List.foldlRecOn ops _ h fun p hp op _ => posStep_ok max p op hp

theorem run_good (max : Nat) (ops : List Op) (i : Nat) : Good ((run ⟨max, true⟩ ops).cons i) :=
  runFrom_good max ops {} (fun _ => good_init) i

theorem run_inv (cfg : Cfg) (ops : List Op) : Inv (inputOf ops) (run cfg ops) (posRun cfg.max ops) :=
  runFrom_inv cfg ops [] {} {} inv_init

theorem posRun_ok (max : Nat) (ops : List Op) : PosOK max (posRun max ops) :=
  posFrom_ok max ops {} (posOK_init max)

/-- from "read ++ unread = handed on" to the slice statement (any `copyOnFlush`) -/
theorem slices_of_fixed (cfg : Cfg) (ops : List Op) (i : Nat) (rest : List Bytes)
    (hfix : ((run cfg ops).cons i).out ++ rest = ((run cfg ops).cons i).handed) :
    let c := (run cfg ops).cons i
    let inp := inputOf ops
    let cuts := cutsOf i (posRun cfg.max ops).cuts
    c.out = (cuts.take c.out.length).map (sliceOf inp) ∧ c.out.length ≤ cuts.length ∧
      Forward 0 cuts inp.length := by
  intro c inp cuts
  have hI := run_inv cfg ops
  have hP := posRun_ok cfg.max ops
  rw [hI.handed i] at hfix
  obtain ⟨h1, h2⟩ := prefix_of_append_eq _ _ _ hfix
  refine ⟨?_, ?_, ?_⟩
  · rw [List.map_take]; exact h1
  · simpa using h2
  · have := hP.fwd i
    apply forward_hi _ _ _ _ this
    rw [← hI.wr]; exact hP.le

/-- **C17 (main)**. Today's code: what consumer `i` has read so far is, message by message, the input
    slice `[a_k, b_k)` cut by the flush that produced it (the cuts of the messages its queue took, in
    order; a message not yet read is simply not there yet), and the cut points move forward:
    `0 ≤ a_1 ≤ b_1 ≤ a_2 ≤ b_2 ≤ … ≤ |input|`. -/
theorem output_is_ordered_slices (max : Nat) (ops : List Op) (i : Nat) :
    let c := (run ⟨max, true⟩ ops).cons i
    let inp := inputOf ops
    let cuts := cutsOf i (posRun max ops).cuts
    c.out = (cuts.take c.out.length).map (sliceOf inp) ∧ c.out.length ≤ cuts.length ∧
      Forward 0 cuts inp.length :=
  slices_of_fixed ⟨max, true⟩ ops i _ (run_good max ops i).fixed

/-- the full statement as a property of a configuration -/
def OutputIsOrderedSlices (cfg : Cfg) : Prop :=
  ∀ (ops : List Op) (i : Nat), ∃ cuts : List Cut,
    Forward 0 cuts (inputOf ops).length ∧ ((run cfg ops).cons i).out = cuts.map (sliceOf (inputOf ops))

theorem forward_take : ∀ (cs : List Cut) (n lo hi : Nat), Forward lo cs hi → Forward lo (cs.take n) hi
  | [], n, _, _, h => by simpa using h
  | x :: r, 0, lo, hi, h => by
    have := forward_le _ _ _ h
    simpa [Forward] using this
  | x :: r, n + 1, _, hi, h => ⟨h.1, h.2.1, forward_take r n x.b hi h.2.2⟩

theorem ordered_slices_hold (max : Nat) : OutputIsOrderedSlices ⟨max, true⟩ := by
  intro ops i
  obtain ⟨h1, _, h3⟩ := output_is_ordered_slices max ops i
  exact ⟨_, forward_take _ _ _ _ h3, h1⟩

theorem forward_flatten_sublist (inp : Bytes) : ∀ (cs : List Cut) (lo hi : Nat), Forward lo cs hi →
    ((cs.map (sliceOf inp)).flatten).Sublist (inp.drop lo)
  | [], _, _, _ => List.nil_sublist _
  | x :: r, lo, hi, ⟨h1, h2, h3⟩ => by
    have e : sliceOf inp x ++ inp.drop x.b = inp.drop x.a := by
      have : x.a + (x.b - x.a) = x.b := by omega
      rw [← this, ← List.drop_drop]
      exact List.take_append_drop ..
    have ih := (List.Sublist.refl (sliceOf inp x)).append (forward_flatten_sublist inp r x.b hi h3)
    rw [e] at ih
    exact ih.trans (List.drop_sublist_drop_left inp h1)

/-- **C17 (drops)**. For every run (0 < max): the cuts of all flushes tile the input up to the start of
    the accumulation buffer — first message starts at 0, each message has 1..max bytes, the next one
    starts exactly where the bytes dropped behind the previous one end, bytes are dropped only behind
    a message of exactly `max` bytes — and the rest of the input is what the buffer still holds. -/
theorem drops_exact (max : Nat) (hmax : 0 < max) (cp : Bool) (ops : List Op) :
    let p := posRun max ops
    Tiles max 0 (p.cuts.map (·.1)) p.start ∧
      (run ⟨max, cp⟩ ops).acc = (inputOf ops).drop p.start ∧ p.start ≤ (inputOf ops).length := by
  intro p
  have hI := run_inv ⟨max, cp⟩ ops
  have hP := posRun_ok max ops
  exact ⟨hP.tiles hmax, hI.acc, by rw [← hI.wr]; exact hP.le⟩

theorem tiles_flatten (max : Nat) (inp : Bytes) : ∀ (cs : List Cut) (lo hi : Nat),
    Tiles max lo cs hi → (∀ x ∈ cs, x.b = x.c) → (cs.map (sliceOf inp)).flatten = slice inp lo hi ∧ lo ≤ hi
  | [], lo, hi, h, _ => by
    have : lo = hi := h
    subst this
    simp [slice]
  | x :: r, lo, hi, h, hb => by
    obtain ⟨h1, h2, h3, _, _, h6⟩ := h
    have hx := hb x (by simp)
    obtain ⟨ih, ihle⟩ := tiles_flatten max inp r x.c hi h6 (fun y hy => hb y (by simp [hy]))
    refine ⟨?_, by omega⟩
    simp only [List.map_cons, List.flatten_cons, ih, sliceOf]
    rw [← hx, ← h1]
    exact slice_adj inp x.a x.b hi (by omega) (by omega)

/-- **C17 (lossless regime)**. If no flush ever found more than `max` bytes (nothing dropped), a consumer
    whose queue took every message and that has read them all has read exactly the flushed part of the
    input, in order, nothing missing, nothing twice. -/
theorem lossless_when_within_max (max : Nat) (hmax : 0 < max) (ops : List Op) (i : Nat)
    (hnodrop : ∀ x ∈ (posRun max ops).cuts, x.1.b = x.1.c)
    (hall : ∀ x ∈ (posRun max ops).cuts, i ∈ x.2)
    (hread : ((run ⟨max, true⟩ ops).cons i).queue = []) :
    ((run ⟨max, true⟩ ops).cons i).out.flatten = (inputOf ops).take (posRun max ops).start := by
  have hI := run_inv ⟨max, true⟩ ops
  have hG := run_good max ops i
  have hP := posRun_ok max ops
  have hfix := hG.fixed
  rw [hread, hI.handed i] at hfix
  simp only [List.map_nil, List.append_nil] at hfix
  have hall' : cutsOf i (posRun max ops).cuts = (posRun max ops).cuts.map (·.1) := by
    unfold cutsOf
    rw [List.filter_eq_self.mpr (fun x hx => by simpa using hall x hx)]
  rw [hfix, hall']
  have := (tiles_flatten max (inputOf ops) _ 0 _ (hP.tiles hmax) (by
    intro x hx
    obtain ⟨y, hy, rfl⟩ := List.mem_map.mp hx
    exact hnodrop y hy)).1
  rw [this]; simp [slice]

/-- the content-stability statement as a property of a configuration: whatever happens between hand-off
    and read, a message is read with the content it had when it was handed on -/
def ContentFixedAtHandoff (cfg : Cfg) : Prop :=
  ∀ (ops : List Op) (i : Nat),
    let c := (run cfg ops).cons i
    c.out = c.handed.take c.out.length

/-- **C17 (stability)**. Today's code: every message read had, when read, the content it had at hand-off;
    and the messages still queued read the same whatever the flush array holds now or later. -/
theorem content_fixed_at_handoff (max : Nat) :
    ContentFixedAtHandoff ⟨max, true⟩ ∧
    ∀ (ops : List Op) (i : Nat) (raw' : Bytes),
      let s := run ⟨max, true⟩ ops
      (s.cons i).out ++ (s.cons i).queue.map (content raw') = (s.cons i).handed :=
  ⟨fun ops i => (prefix_of_append_eq _ _ _ (run_good max ops i).fixed).1,
    fun ops i raw' => (run_good max ops i).fixedAt raw'⟩

/-! ## The code before 833d3d2 (`frame := rawFrame[:n]`) -/

/-- chunks `A` then `B` of equal length (1..max), each flushed, consumer 0 queues both and reads them
    afterwards: it reads `B, B`, although `A, B` was handed on. -/
theorem aliasing_reads_B_B (max : Nat) (A B : Bytes) (hl : A.length = B.length) (h0 : 0 < A.length)
    (hm : A.length ≤ max) :
    let c := (run ⟨max, false⟩ [.write A, .flush [0], .write B, .flush [0], .read 0, .read 0]).cons 0
    c.out = [B, B] ∧ c.handed = [A, B] := by
  -- `hl` turns every `A.length` into `B.length`: both flushes take a whole chunk
  rw [hl] at hm h0
  have e : min B.length max = B.length := Nat.min_eq_left hm
  have n : B.length ≠ 0 := Nat.ne_of_gt h0
  have t : List.take B.length A = A := by rw [← hl]; exact List.take_length
  simp [run, runFrom, step, Cons.deliver, Cons.read, content, e, n, hl, t]

/-- **C17 (negation for the pre-fix code)**: neither property holds with `copyOnFlush = false`. -/
theorem aliasing_corrupts (max : Nat) (hmax : 0 < max) :
    ¬ OutputIsOrderedSlices ⟨max, false⟩ ∧ ¬ ContentFixedAtHandoff ⟨max, false⟩ := by
  obtain ⟨hout, hhand⟩ := aliasing_reads_B_B max [1] [2] rfl (by decide) hmax
  refine ⟨fun h => ?_, fun h => ?_⟩
  · -- forward slices laid end to end are a subsequence of the input, and `[2, 2]` is none of `[1, 2]`
    obtain ⟨cuts, hf, ho⟩ := h [.write [1], .flush [0], .write [2], .flush [0], .read 0, .read 0] 0
    have hs := forward_flatten_sublist [1, 2] _ _ _ hf
    rw [show cuts.map (sliceOf [1, 2]) = [[2], [2]] from ho.symm.trans hout] at hs
    exact absurd hs (by decide)
  · have hc := h [.write [1], .flush [0], .write [2], .flush [0], .read 0, .read 0] 0
    simp only at hc
    rw [hout, hhand] at hc
    exact absurd hc (by decide)

/-- along the run from `s`, consumer `i` holds no unread message whenever the idle timer fires -/
def Prompt (cfg : Cfg) (i : Nat) : St → List Op → Prop
  | _, [] => True
  | s, .flush a :: r => (s.cons i).queue = [] ∧ Prompt cfg i (step cfg s (.flush a)) r
  | s, op :: r => Prompt cfg i (step cfg s op) r

theorem runFrom_fixed (cfg : Cfg) (i : Nat) : ∀ (ops : List Op) (s : St),
    Prompt cfg i s ops → Fixed s.raw (s.cons i) →
      Fixed (runFrom cfg s ops).raw ((runFrom cfg s ops).cons i)
  | [], _, _, h => h
  | .write ch :: r, s, hp, h => runFrom_fixed cfg i r _ hp h
  | .read j :: r, s, hp, h => by
    refine runFrom_fixed cfg i r _ hp ?_
    simp only [step]
    split
    · exact fixed_read h
    · exact h
  | .flush a :: r, s, ⟨hq, hp⟩, h => by
    refine runFrom_fixed cfg i r _ hp ?_
    unfold Fixed at h ⊢
    by_cases hn : min s.acc.length cfg.max = 0 <;> simp only [step, hn, ↓reduceIte]
    · exact h
    · split
      · -- the queue was empty; the message just made reads as the frame in the array just written
        rw [hq, List.map_nil, List.append_nil] at h
        simp only [Cons.deliver, hq, List.nil_append, List.map_cons, List.map_nil, h]
        congr 2
        cases cfg.copyOnFlush
        · exact List.take_left' (List.length_take_of_le (Nat.min_le_left ..))
        · rfl
      · rw [hq] at h ⊢; exact h

/-- **C17 (`…_partial` for the pre-fix code)**: with `frame := rawFrame[:n]`, a consumer that has read
    every message it holds before the idle timer fires again (never holds one across a flush) still
    reads forward-moving slices with the content handed on. Queueing (Send depth ≥ 1, a lagging
    destination) is exactly what breaks it (`aliasing_reads_B_B`). -/
theorem aliasing_partial (max : Nat) (ops : List Op) (i : Nat) (hp : Prompt ⟨max, false⟩ i {} ops) :
    let c := (run ⟨max, false⟩ ops).cons i
    let cuts := cutsOf i (posRun max ops).cuts
    c.out = c.handed.take c.out.length ∧
    c.out = (cuts.take c.out.length).map (sliceOf (inputOf ops)) ∧ c.out.length ≤ cuts.length ∧
      Forward 0 cuts (inputOf ops).length := by
  have hf := runFrom_fixed ⟨max, false⟩ i ops {} hp rfl
  exact ⟨(prefix_of_append_eq _ _ _ hf).1, slices_of_fixed ⟨max, false⟩ ops i _ hf⟩

/-! ## Websocket ingest: message in, same message out -/

theorem msgq_step (i : Nat) (s : Msgq.St) (op : Msgq.Op) (h : Good (s.cons i)) :
    Good ((Msgq.step s op).cons i) ∧
      ((Msgq.step s op).cons i).handed = (s.cons i).handed ++ Msgq.accepted i [op] := by
  cases op with
  | read j =>
    simp only [Msgq.step, Msgq.accepted, List.append_nil]
    split
    · exact ⟨good_read _ _ h, read_handed _ _⟩
    · exact ⟨h, rfl⟩
  | post m a =>
    simp only [Msgq.step, Msgq.accepted]
    split
    · exact ⟨good_deliver _ _ h, rfl⟩
    · exact ⟨h, (List.append_nil _).symm⟩

theorem accepted_cons (i : Nat) (op : Msgq.Op) (r : List Msgq.Op) :
    Msgq.accepted i (op :: r) = Msgq.accepted i [op] ++ Msgq.accepted i r := by
  cases op with
  | read j => rfl
  | post m a => simp only [Msgq.accepted]; split <;> rfl

theorem msgq_runFrom (i : Nat) : ∀ (ops : List Msgq.Op) (s : Msgq.St), Good (s.cons i) →
    Good ((Msgq.runFrom s ops).cons i) ∧
      ((Msgq.runFrom s ops).cons i).handed = (s.cons i).handed ++ Msgq.accepted i ops
  | [], _, h => ⟨h, (List.append_nil _).symm⟩
  | op :: r, s, h => by
    obtain ⟨hg, hh⟩ := msgq_step i s op h
    obtain ⟨h1, h2⟩ := msgq_runFrom i r _ hg
    exact ⟨h1, by rw [accepted_cons, ← List.append_assoc, ← hh]; exact h2⟩

/-- **C17 (websocket ingest / hub fan-out)**. For every sequence of posted messages, queue behaviour and
    consumer delay: what consumer `i` has read is a prefix of the posted messages its queue took —
    each one whole, unchanged, once, in posting order. -/
theorem ws_messages_in_order (ops : List Msgq.Op) (i : Nat) :
    let c := (Msgq.run ops).cons i
    c.out = (Msgq.accepted i ops).take c.out.length ∧ c.out.length ≤ (Msgq.accepted i ops).length := by
  obtain ⟨hg, hh⟩ := msgq_runFrom i ops {} good_init
  have hf := hg.fixed
  rw [hh] at hf
  simp only [List.nil_append] at hf
  exact prefix_of_append_eq _ _ _ hf

/-! ### non-vacuity: concrete runs -/

/-- max 4; 6 bytes arrive before the timer fires (2 dropped), then 3 more; consumer 0 queues both
    messages and reads late, consumer 1 misses the first message: -/
example :
    let ops := [Op.write [1, 2, 3], .write [4, 5, 6], .flush [0], .write [7, 8, 9], .flush [0, 1],
                .read 0, .read 0, .read 1, .write [10]]
    let s := run ⟨4, true⟩ ops
    (s.cons 0).out = [[1, 2, 3, 4], [7, 8, 9]] ∧ (s.cons 1).out = [[7, 8, 9]] ∧ s.acc = [10] ∧
      (posRun 4 ops).cuts.map (·.1) = [⟨0, 4, 6⟩, ⟨6, 9, 9⟩] ∧
      inputOf ops = [1, 2, 3, 4, 5, 6, 7, 8, 9, 10] := by
  decide +kernel

/-- the same schedule on the pre-fix code: consumer 0 reads the second message twice (first one
    overwritten in place, cut to its own length) -/
example :
    let ops := [Op.write [1, 2, 3], .write [4, 5, 6], .flush [0], .write [7, 8, 9], .flush [0, 1],
                .read 0, .read 0, .read 1]
    ((run ⟨4, false⟩ ops).cons 0).out = [[7, 8, 9, 4], [7, 8, 9]] := by
  decide

example :
    let ops := [Msgq.Op.post [1, 2] [0, 1], .post [] [0], .post [3] [1], .read 0, .read 1, .read 0, .read 1]
    ((Msgq.run ops).cons 0).out = [[1, 2], []] ∧ ((Msgq.run ops).cons 1).out = [[1, 2], [3]] := by
  decide

end Flush
