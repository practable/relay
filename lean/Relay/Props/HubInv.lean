import Relay.Model.Hub

/-!
# The hub model's lemmas and its invariant (shared by C03, C04, C05, C07, C08, C14 and the refinement in `Tie/`)

The invariant (`Good` of every member, `run_inv`) says, for every event history and every current member `c`:
* `own`: every message ever queued for `c` was sent on exactly `c`'s topic by somebody else
* `rd`: if `c` may read, the frames written to its socket, in order, followed by what is still queued, are
  exactly the messages delivered to it — each frame a contiguous block of whole messages
* `nrd`: if `c` may not read, nothing was ever written to its socket
* `exact`: the messages delivered to `c` are exactly those the hub broadcast since `c` joined that `c` wants,
  in hub order (nothing skipped, nothing duplicated, nothing reordered)
-/

namespace Hub

theorem wants_iff (c : Client) (m : Msg) : wants c m = true ↔ c.topic = m.topic ∧ c.name ≠ m.sender := by
  simp [wants, wantsTN]

theorem hasRoom_iff (c : Client) : hasRoom c = true ↔ c.queue.length < c.cap := decide_eq_true_iff

theorem offer_skip {c : Client} {m : Msg} (hw : wants c m = false) : offer c m = some c := by
  simp [offer, hw]

theorem offer_enqueue {c : Client} {m : Msg} (hw : wants c m = true) (hr : hasRoom c = true) :
    offer c m = some { c with queue := c.queue ++ [m], delivered := c.delivered ++ [m] } := by
  simp [offer, hw, hr]

theorem offer_none_iff (c : Client) (m : Msg) : offer c m = none ↔ wants c m = true ∧ hasRoom c = false := by
  unfold offer
  by_cases hw : wants c m = true <;> by_cases hr : hasRoom c = true <;> simp [hw, hr]

theorem offer_some {c c' : Client} {m : Msg} (h : offer c m = some c') :
    wants c m = false ∧ c' = c ∨
    wants c m = true ∧ hasRoom c = true ∧
      c' = { c with queue := c.queue ++ [m], delivered := c.delivered ++ [m] } := by
  unfold offer at h
  split at h
  next hw =>
    split at h
    next hr =>
      injection h with h
      exact .inr ⟨hw, hr, h.symm⟩
    next => cases h
  next hw =>
    injection h with h
    exact .inl ⟨Bool.eq_false_iff.2 hw, h.symm⟩

theorem offer_queue_iff (c : Client) (m : Msg) :
    (offer c m).map (·.queue) = some (c.queue ++ [m]) ↔ wants c m = true ∧ hasRoom c = true := by
  unfold offer
  by_cases hw : wants c m = true <;> by_cases hr : hasRoom c = true <;> simp [hw, hr]

/-- what no event changes in a member: everything but its queue and the ghost logs -/
structure Same (c' c : Client) : Prop where
  name : c'.name = c.name
  topic : c'.topic = c.topic
  bid : c'.bid = c.bid
  canRead : c'.canRead = c.canRead
  canWrite : c'.canWrite = c.canWrite
  cap : c'.cap = c.cap
  joinedAt : c'.joinedAt = c.joinedAt

theorem Same.rfl {c : Client} : Same c c :=
  ⟨_root_.rfl, _root_.rfl, _root_.rfl, _root_.rfl, _root_.rfl, _root_.rfl, _root_.rfl⟩

theorem offer_same {c c' : Client} {m : Msg} (h : offer c m = some c') : Same c' c := by
  rcases offer_some h with ⟨_, rfl⟩ | ⟨_, _, rfl⟩ <;> exact ⟨rfl, rfl, rfl, rfl, rfl, rfl, rfl⟩

theorem drainC_same (c : Client) (k : Nat) : Same (drainC c k) c := by
  unfold drainC
  split
  · exact .rfl
  · split <;> exact ⟨rfl, rfl, rfl, rfl, rfl, rfl, rfl⟩

theorem drainC_if_same (b : Bool) (c : Client) (k : Nat) : Same (if b then drainC c k else c) c := by
  split
  · exact drainC_same c k
  · exact .rfl

theorem drainC_queue (c : Client) (k : Nat) :
    (drainC c k).queue = c.queue.drop (if c.canRead then k + 1 else 1) := by
  unfold drainC
  split
  · rename_i hq; rw [hq, List.drop_nil]
  · split <;> rfl

theorem bytes_append (a b : List Msg) : bytes (a ++ b) = bytes a ++ bytes b := by
  simp [bytes]

theorem bytes_flatten (bs : List (List Msg)) : bytes bs.flatten = (bs.map bytes).flatten := by
  induction bs with
  | nil => rfl
  | cons b bs ih => rw [List.flatten_cons, bytes_append, ih]; rfl

theorem mem_broadcast {h : Hub} {m : Msg} {c' : Client} :
    c' ∈ (broadcast h m).members ↔ ∃ c ∈ h.members, offer c m = some c' := List.mem_filterMap

theorem mem_evicted {l : List Client} {m : Msg} {c : Client} :
    c ∈ evicted l m ↔ c ∈ l ∧ wants c m = true ∧ hasRoom c = false := by
  simp [evicted]

theorem step_members (h : Hub) (e : Ev) : ∀ c' ∈ (step h e).members,
    (∃ c ∈ h.members, Same c' c) ∨
    ∃ t b r w cap, e = .register t b r w cap ∧
      c' = { name := h.next, topic := t, bid := b, canRead := r, canWrite := w, cap := cap,
             joinedAt := h.sent.length } := by
  intro c' hc'
  cases e with
  | register t b r w cap =>
    simp only [step, List.mem_append, List.mem_singleton] at hc'
    exact hc'.imp (fun hc' => ⟨c', hc', .rfl⟩) (fun hc' => ⟨t, b, r, w, cap, rfl, hc'⟩)
  | unregister n =>
    simp only [step, List.mem_filter] at hc'
    exact .inl ⟨c', hc'.1, .rfl⟩
  | inbound n d mt =>
    simp only [step] at hc'
    split at hc'
    · split at hc'
      · obtain ⟨c, hc, ho⟩ := mem_broadcast.1 hc'
        exact .inl ⟨c, hc, offer_same ho⟩
      · exact .inl ⟨c', hc', .rfl⟩
    · exact .inl ⟨c', hc', .rfl⟩
  | drain n k =>
    simp only [step, List.mem_map] at hc'
    obtain ⟨c, hc, rfl⟩ := hc'
    exact .inl ⟨c, hc, drainC_if_same _ c k⟩

theorem step_members_kept (h : Hub) (e : Ev) (hreg : ∀ t b r w cap, e ≠ .register t b r w cap) :
    ∀ c' ∈ (step h e).members, ∃ c ∈ h.members, Same c' c := fun c' hc' =>
  (step_members h e c' hc').resolve_right fun ⟨t, b, r, w, cap, he, _⟩ => hreg t b r w cap he

theorem step_next_le (h : Hub) (e : Ev) : h.next ≤ (step h e).next := by
  cases e with
  | register t b r w cap => exact Nat.le_succ _
  | unregister n => exact Nat.le_refl _
  | drain n k => exact Nat.le_refl _
  | inbound n d mt =>
    simp only [step]
    split
    · split <;> exact Nat.le_refl _
    · exact Nat.le_refl _

/-- a member named below `M.next` after a history from `M` was a member of `M` already, with the same `joinedAt` -/
theorem foldl_members_old (evs : List Ev) (M : Hub) (mc' : Client)
    (hmc' : mc' ∈ (evs.foldl step M).members) (hlt : mc'.name < M.next) :
    ∃ mc ∈ M.members, mc.name = mc'.name ∧ mc.joinedAt = mc'.joinedAt := by
  induction evs generalizing M with
  | nil => exact ⟨mc', hmc', rfl, rfl⟩
  | cons e evs ih =>
    obtain ⟨mc1, hmc1, e1, e2⟩ := ih (step M e) hmc' (Nat.lt_of_lt_of_le hlt (step_next_le M e))
    rcases step_members M e mc1 hmc1 with ⟨mc, hmc, hs⟩ | ⟨_, _, _, _, _, _, rfl⟩
    · exact ⟨mc, hmc, hs.name.symm.trans e1, hs.joinedAt.symm.trans e2⟩
    · exact absurd hlt (by rw [← e1]; exact Nat.lt_irrefl _)

/-- what holds of every member `c` after any history with broadcast log `sent`. `suffix` is `rd` without its premise
    (a non-reader's queue still ends its `delivered`); `joined`, `exact`: `delivered` is the wanted part of the log since it
    joined; `fresh`: names are handed out below the counter. -/
structure Good (sent : List Msg) (next : Nat) (c : Client) : Prop where
  own : ∀ m ∈ c.delivered, m.topic = c.topic ∧ m.sender ≠ c.name
  rd : c.canRead = true → c.blocks.flatten ++ c.queue = c.delivered
  nrd : c.canRead = false → c.blocks = []
  suffix : ∃ pre, pre ++ c.queue = c.delivered
  joined : c.joinedAt ≤ sent.length
  exact : c.delivered = (sent.drop c.joinedAt).filter (wantsTN c.topic c.name)
  fresh : c.name < next

theorem good_offer {sent : List Msg} {next : Nat} {c c' : Client} {m : Msg} (ho : offer c m = some c')
    (hg : Good sent next c) : Good (sent ++ [m]) next c' := by
  have hj : c.joinedAt ≤ (sent ++ [m]).length := by rw [List.length_append]; exact Nat.le_add_right_of_le hg.joined
  -- clause `exact`: one more message on the hub's log, which the filter keeps iff `c` wants it
  have hx : ((sent ++ [m]).drop c.joinedAt).filter (wantsTN c.topic c.name) = c.delivered ++ [m].filter (wants c) := by
    rw [List.drop_append_of_le_length hg.joined, List.filter_append, ← hg.exact]; rfl
  rcases offer_some ho with ⟨hw, rfl⟩ | ⟨hw, _, rfl⟩
  · exact { hg with joined := hj, exact := by simp [hx, hw] }
  · have hw' := (wants_iff c m).1 hw
    obtain ⟨pre, h4⟩ := hg.suffix
    exact { hg with
      own := fun x hx => by
        rcases List.mem_append.1 hx with hx | hx
        · exact hg.own x hx
        · rw [List.mem_singleton.1 hx]; exact ⟨hw'.1.symm, fun e => hw'.2 e.symm⟩
      rd := fun hr => by simp only [← List.append_assoc, hg.rd hr]
      suffix := ⟨pre, by simp only [← List.append_assoc, h4]⟩
      joined := hj
      exact := by simp [hx, hw] }

theorem good_drain (sent : List Msg) (next : Nat) (c : Client) (k : Nat) (hg : Good sent next c) :
    Good sent next (drainC c k) := by
  obtain ⟨pre, h4⟩ := hg.suffix
  unfold drainC
  cases hq : c.queue with
  | nil => exact hg
  | cons a as =>
    rw [hq] at h4
    by_cases hr : c.canRead = true
    · have h2 := hg.rd hr
      rw [hq] at h2
      simp only [hr, if_true]
      -- what is taken off the queue is the next block
      exact { hg with
        rd := fun _ => by
          rw [List.flatten_append, List.flatten_singleton, List.append_assoc, List.take_append_drop]; exact h2
        nrd := fun h => by simp at h
        suffix := ⟨pre ++ (a :: as).take (k + 1), by rw [List.append_assoc, List.take_append_drop]; exact h4⟩ }
    · have hf : c.canRead = false := by simpa using hr
      simp only [hf, Bool.false_eq_true, if_false]
      exact { hg with
        rd := fun h => by simp at h
        nrd := fun _ => hg.nrd hf
        suffix := ⟨pre ++ [a], by simpa using h4⟩ }

structure HubInv (h : Hub) : Prop where
  good : ∀ c ∈ h.members, Good h.sent h.next c
  nodup : h.members.Pairwise (fun a b => a.name ≠ b.name)

theorem name_unique {α β : Type} {f : α → β} {l : List α} (hp : l.Pairwise fun a b => f a ≠ f b) :
    ∀ ⦃a⦄, a ∈ l → ∀ ⦃b⦄, b ∈ l → f a = f b → a = b :=
  List.Pairwise.forall_of_forall_of_flip (R := fun a b => f a = f b → a = b) (fun _ _ _ => rfl)
    (hp.imp fun h e => absurd e h) (hp.imp fun h e => absurd e.symm h)

theorem filter_name {α β : Type} [BEq β] [LawfulBEq β] {f : α → β} {l : List α} (hp : l.Pairwise fun a b => f a ≠ f b) {a : α}
    (ha : a ∈ l) : l.filter (fun x => f x == f a) = [a] := by
  induction l with
  | nil => cases ha
  | cons x l ih =>
    obtain ⟨h1, h2⟩ := List.pairwise_cons.1 hp
    rcases List.mem_cons.1 ha with e | e
    · subst e
      rw [List.filter_cons_of_pos (by simp), List.filter_eq_nil_iff.2 (fun y hy => by simpa using (h1 y hy).symm)]
    · rw [List.filter_cons_of_neg (by simpa using h1 a e), ih h2 e]

theorem find?_name {α β : Type} [BEq β] [LawfulBEq β] {f : α → β} {l : List α} (hp : l.Pairwise fun a b => f a ≠ f b) {a : α}
    (ha : a ∈ l) : l.find? (fun x => f x == f a) = some a := by
  rw [← List.head?_filter, filter_name hp ha]; rfl

theorem inv_init : HubInv {} := ⟨by simp, List.Pairwise.nil⟩

theorem broadcast_inv (h : Hub) (m : Msg) (hI : HubInv h) : HubInv (broadcast h m) := by
  obtain ⟨hg, hn⟩ := hI
  constructor
  · intro c hc
    obtain ⟨c1, hc1, hopt⟩ := mem_broadcast.1 hc
    exact good_offer hopt (hg c1 hc1)
  · exact hn.filterMap _ fun a a' hab b hb b' hb' => by
      rw [(offer_same hb).name, (offer_same hb').name]; exact hab

theorem step_inv (h : Hub) (e : Ev) (hI : HubInv h) : HubInv (step h e) := by
  cases e with
  | register t b r w cap =>
    obtain ⟨hg, hn⟩ := hI
    constructor
    · intro c hc
      simp only [step, List.mem_append, List.mem_singleton] at hc
      simp only [step]
      rcases hc with hc | hc
      · exact { hg c hc with fresh := Nat.lt_succ_of_lt (hg c hc).fresh }
      · subst hc
        -- a new member has empty queue and logs: every clause is about empty lists
        constructor <;> simp
    · exact List.pairwise_append.2 ⟨hn, List.pairwise_singleton _ _, fun a ha b hb =>
        List.mem_singleton.1 hb ▸ Nat.ne_of_lt (hg a ha).fresh⟩
  | unregister n =>
    obtain ⟨hg, hn⟩ := hI
    constructor
    · intro c hc; simp only [step, List.mem_filter] at hc; exact hg c hc.1
    · exact List.Pairwise.filter _ hn
  | inbound n d mt =>
    simp only [step]
    split
    · split
      · exact broadcast_inv h _ hI
      · exact hI
    · exact hI
  | drain n k =>
    obtain ⟨hg, hn⟩ := hI
    constructor
    · intro c hc
      simp only [step, List.mem_map] at hc
      obtain ⟨c1, hc1, rfl⟩ := hc
      simp only [step]
      split
      · exact good_drain _ _ c1 k (hg c1 hc1)
      · exact hg c1 hc1
    · simp only [step]
      rw [List.pairwise_map]
      exact hn.imp (fun {a b} hab => by rw [(drainC_if_same _ a k).name, (drainC_if_same _ b k).name]; exact hab)

theorem foldl_inv (evs : List Ev) (h : Hub) (hI : HubInv h) : HubInv (evs.foldl step h) := by
  induction evs generalizing h with
  | nil => exact hI
  | cons e es ih => exact ih _ (step_inv h e hI)

theorem run_inv (evs : List Ev) : HubInv (run evs) := foldl_inv evs {} inv_init

end Hub
