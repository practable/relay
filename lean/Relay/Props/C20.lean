import Relay.Model.PlayFile
import Relay.Model.Filter
import Relay.Lemmas.PlayFile

/-!
# C20 — play files parse as documented; the log filter passes exactly what the rules allow

All theorems are for every line (every byte string: any prefix, blank placement, duration,
pattern, count), every answer of `regexp.Compile` / `MatchString` (parameters `compiles`, `mt`)
and every sequence of filter commands interleaved with received lines.

Parser (`namespace PlayFile`)
* `parse_total_exclusive`   exactly one of comment / wait / send / filter / error; the four
                            command shapes of a line are mutually exclusive
* `parse_kind_by_shape`     which outcome (and which errors) each shape can give
* `comment_never_sent`      comment ⟺ first non-blank character is `#`;  `comment_exact` (echo, text)
* `plain_verbatim`          a line with none of the shapes is sent verbatim
* `delayed_send_exact`      `[ARG] BODY`: delay = ParseDuration ARG (empty = 0), message = BODY to end of line
* `delay_without_unit_rejected`  digits/dots-only ARG (≠ `0`) is the delay-format error (fix e9dd7a6)
* `conditional_send_exact`  `<'PAT',COUNT,TIMEOUT JUNK> BODY`: exact pattern, count, timeout, message; error order
* `filter_command_exact`    `|VERB> BODY`
* `parse_uses_only_wanted`  the parser asks `regexp.Compile` about at most one string (`wanted`)
* `print_parse_roundtrip`   `parseLine (render c) = c` for every `WellFormed` command
* `parse_error_iff_malformed`, `check_iff_malformed`   error ⟺ ¬ `WellFormedLine` (explicit grammar)
* `durLoop_fuel`            the model's duration loop never runs out of fuel

Filter (`namespace Filter`)
* `filter_keys_exact`       lists = patterns commanded since the last reset (duplicates collapse)
* `filter_pass_iff`         passed ⟺ no filter set ∨ (no deny pattern matches ∧ some accept pattern matches)
* `filter_log_exact`        the same for every history of commands interleaved with received lines
-/

namespace Filter
open PlayFile

/-- `accept p` was commanded and no reset came after it -/
def AcceptInEffect (cs : List Cmd) (p : Pat) : Prop :=
  ∃ pre post, cs = pre ++ Cmd.accept p :: post ∧ Cmd.reset ∉ post

def DenyInEffect (cs : List Cmd) (p : Pat) : Prop :=
  ∃ pre post, cs = pre ++ Cmd.deny p :: post ∧ Cmd.reset ∉ post

def NoFilterSet (cs : List Cmd) : Prop := ∀ p, ¬ AcceptInEffect cs p ∧ ¬ DenyInEffect cs p

/-- the rule of the property statement -/
def Rule (mt : Pat → Line → Bool) (cs : List Cmd) (line : Line) : Prop :=
  NoFilterSet cs ∨
    ((∀ p, DenyInEffect cs p → mt p line = false) ∧ ∃ p, AcceptInEffect cs p ∧ mt p line = true)

def runCmds (cs : List Cmd) (f : F := {}) : F := cs.foldl apply f

theorem mem_addKey (p q : Pat) (l : List Pat) : p ∈ addKey q l ↔ p = q ∨ p ∈ l := by
  unfold addKey
  split
  next hq => exact ⟨Or.inr, fun h => h.elim (fun e => e ▸ hq) id⟩
  next => rw [List.mem_append, List.mem_singleton, or_comm]

/-- `AcceptInEffect` and `DenyInEffect` as one notion: `k` is `Cmd.accept` or `Cmd.deny` -/
def InEffect (k : Pat → Cmd) (cs : List Cmd) (p : Pat) : Prop :=
  ∃ pre post, cs = pre ++ k p :: post ∧ Cmd.reset ∉ post

theorem inEffect_cons (k : Pat → Cmd) (c : Cmd) (cs : List Cmd) (p : Pat) :
    InEffect k (c :: cs) p ↔ (c = k p ∧ Cmd.reset ∉ cs) ∨ InEffect k cs p := by
  constructor
  · rintro ⟨pre, post, h, hr⟩
    cases pre with
    | nil =>
      simp only [List.nil_append, List.cons.injEq] at h
      exact Or.inl ⟨h.1, h.2 ▸ hr⟩
    | cons a pre =>
      simp only [List.cons_append, List.cons.injEq] at h
      exact Or.inr ⟨pre, post, h.2, hr⟩
  · rintro (⟨rfl, hr⟩ | ⟨pre, post, h, hr⟩)
    · exact ⟨[], cs, rfl, hr⟩
    · exact ⟨c :: pre, post, by simp [h], hr⟩

/-- both halves of `filter_keys_exact` at once: `sel` is the accept (deny) list, `k` the command
    that adds to it -/
theorem keys_from (k : Pat → Cmd) (sel : F → List Pat)
    (hreset : ∀ f, sel (apply f .reset) = []) (hadd : ∀ f q, sel (apply f (k q)) = addKey q (sel f))
    (hkeep : ∀ f c, c ≠ .reset → (∀ q, c ≠ k q) → sel (apply f c) = sel f)
    (hk : ∀ q, k q ≠ .reset) (hinj : ∀ p q, k q = k p → q = p)
    (cs : List Cmd) (f : F) (p : Pat) :
    p ∈ sel (runCmds cs f) ↔ InEffect k cs p ∨ (p ∈ sel f ∧ Cmd.reset ∉ cs) := by
  induction cs generalizing f with
  | nil => simp [runCmds, InEffect]
  | cons c cs ih =>
    show p ∈ sel (runCmds cs (apply f c)) ↔ _
    rw [ih, inEffect_cons, List.mem_cons, not_or]
    by_cases h1 : c = .reset
    · subst h1
      simp [hreset, (hk p).symm]
    by_cases h2 : ∃ q, c = k q
    · obtain ⟨q, rfl⟩ := h2
      rw [hadd, mem_addKey]
      constructor
      · rintro (h | ⟨rfl | h, hr⟩)
        · exact Or.inl (Or.inr h)
        · exact Or.inl (Or.inl ⟨rfl, hr⟩)
        · exact Or.inr ⟨h, Ne.symm h1, hr⟩
      · rintro ((⟨e, hr⟩ | h) | ⟨h, _, hr⟩)
        · exact Or.inr ⟨Or.inl (hinj _ _ e).symm, hr⟩
        · exact Or.inl h
        · exact Or.inr ⟨Or.inr h, hr⟩
    · simp [hkeep f c h1 (not_exists.1 h2), not_exists.1 h2 p, Ne.symm h1]

/-- **C20 filter (keys)**: after any command sequence the accept (deny) list holds exactly the
    patterns commanded since the last reset; duplicates collapse, reset empties both. -/
theorem filter_keys_exact (cs : List Cmd) (p : Pat) :
    (p ∈ (runCmds cs).accept ↔ AcceptInEffect cs p) ∧ (p ∈ (runCmds cs).deny ↔ DenyInEffect cs p) := by
  -- a command other than `reset` and the one that adds to a list leaves that list alone
  have hkeepA : ∀ (f : F) (c : Cmd), c ≠ .reset → (∀ q, c ≠ .accept q) → (apply f c).accept = f.accept := by
    intro f c h1 h2
    cases c with
    | accept q => exact absurd rfl (h2 q)
    | reset => exact absurd rfl h1
    | _ => rfl
  have hkeepD : ∀ (f : F) (c : Cmd), c ≠ .reset → (∀ q, c ≠ .deny q) → (apply f c).deny = f.deny := by
    intro f c h1 h2
    cases c with
    | deny q => exact absurd rfl (h2 q)
    | reset => exact absurd rfl h1
    | _ => rfl
  have ha := keys_from .accept (·.accept) (hreset := fun _ => rfl) (hadd := fun _ _ => rfl) (hkeep := hkeepA)
    (hk := fun _ => nofun) (hinj := fun _ _ e => Cmd.accept.inj e) cs {} p
  have hd := keys_from .deny (·.deny) (hreset := fun _ => rfl) (hadd := fun _ _ => rfl) (hkeep := hkeepD)
    (hk := fun _ => nofun) (hinj := fun _ _ e => Cmd.deny.inj e) cs {} p
  -- both lists are empty at the start
  simp only [List.not_mem_nil, false_and, or_false] at ha hd
  -- `InEffect .accept` is `AcceptInEffect` by definition, and `InEffect .deny` is `DenyInEffect`
  exact ⟨ha, hd⟩

theorem anyMatch_iff (mt : Pat → Line → Bool) (line : Line) (ps : List Pat) :
    anyMatch mt line ps = true ↔ ∃ p, p ∈ ps ∧ mt p line = true := by
  simp [anyMatch]

/-- **C20 filter (rule)**: for every sequence of accept / deny / reset (and no-op) commands and
    every line: the line is passed ⟺ no filter is set ∨ (no deny pattern in effect matches it ∧
    some accept pattern in effect matches it). -/
theorem filter_pass_iff (mt : Pat → Line → Bool) (cs : List Cmd) (line : Line) :
    pass mt (runCmds cs) line = true ↔ Rule mt cs line := by
  have hk := filter_keys_exact cs
  have hall : allPass (runCmds cs) = true ↔ NoFilterSet cs := by
    simp only [allPass, NoFilterSet, Bool.and_eq_true, List.isEmpty_iff, List.eq_nil_iff_forall_not_mem,
      ← forall_and, hk]
  have hd : (∀ p, DenyInEffect cs p → mt p line = false) ↔ ¬ anyMatch mt line (runCmds cs).deny = true := by
    simp [anyMatch_iff, hk]
  have ha : (∃ p, AcceptInEffect cs p ∧ mt p line = true) ↔ anyMatch mt line (runCmds cs).accept = true := by
    simp only [anyMatch_iff, hk]
  unfold Rule pass
  rw [← hall, hd, ha]
  -- what is left is the truth table of `Filter.Pass`'s three tests
  generalize allPass (runCmds cs) = a, anyMatch mt line (runCmds cs).deny = d, anyMatch mt line (runCmds cs).accept = c
  revert a d c
  decide

def cmdsOf : List Ev → List Cmd
  | [] => []
  | .cmd c :: r => c :: cmdsOf r
  | .recv _ :: r => cmdsOf r

theorem run_f (mt : Pat → Line → Bool) (evs : List Ev) (s : St) :
    (run mt evs s).f = runCmds (cmdsOf evs) s.f := by
  induction evs generalizing s with
  | nil => rfl
  | cons e evs ih =>
    cases e with
    | cmd c => simp only [run, List.foldl_cons, cmdsOf, runCmds] at ih ⊢; rw [ih]; rfl
    | recv l =>
      simp only [run, List.foldl_cons, cmdsOf, runCmds] at ih ⊢
      rw [ih]
      simp only [step]
      split <;> rfl

/-- **C20 filter (histories)**: for every history of commands interleaved with received lines,
    the next received line is appended to the log exactly when the rule — evaluated on the
    commands that preceded it — holds; otherwise the log is unchanged.  (Lines never change
    the filter; nothing else is ever written.) -/
theorem filter_log_exact (mt : Pat → Line → Bool) (pre : List Ev) (l : Line) :
    (Rule mt (cmdsOf pre) l → (run mt (pre ++ [.recv l])).log = (run mt pre).log ++ [l]) ∧
    (¬ Rule mt (cmdsOf pre) l → (run mt (pre ++ [.recv l])).log = (run mt pre).log) := by
  have hf := run_f mt pre {}
  have hp := filter_pass_iff mt (cmdsOf pre) l
  simp only [run, List.foldl_append, List.foldl_cons, List.foldl_nil] at hf ⊢
  simp only [step, hf]
  constructor
  · intro h
    rw [if_pos (hp.mpr h)]
  · intro h
    rw [if_neg (h ∘ hp.mp)]

/-- non-vacuity: duplicates, a pattern on both lists, reset, and lines passing / dropped -/
example :
    let mt : Pat → Line → Bool := fun p l => p.isPrefixOf l
    let a := ['a']; let b := ['a', 'b']
    (run mt [.recv b, .cmd (.accept a), .cmd (.accept a), .recv b, .recv ['c'], .cmd (.deny b), .recv b,
             .recv a, .cmd .reset, .recv ['c']]).log = [b, b, a, ['c']] := by
  decide

end Filter

namespace PlayFile

/-! ## the four command shapes of a line

What `mre`, `dre`, `cire`, `fre` of `regex.go` match, as existential decompositions that mention no scanner. -/

/-- first non-blank character is `#` -/
def CommentLine (l : Str) : Prop := ∃ ws r, All isWs ws ∧ l = ws ++ '#' :: r

/-- blanks `[` blanks `[a-zA-Z0-9.]*` blanks `]` anything -/
def DelayLine (l : Str) : Prop :=
  ∃ ws1 ws2 arg ws3 rest, All isWs ws1 ∧ All isWs ws2 ∧ All isDelayCh arg ∧ All isWs ws3 ∧
    l = ws1 ++ '[' :: (ws2 ++ (arg ++ (ws3 ++ ']' :: rest)))

/-- blanks `<` text-without-newline `>` anything -/
def CondLine (l : Str) : Prop :=
  ∃ ws1 inner rest, All isWs ws1 ∧ All notNL inner ∧ l = ws1 ++ '<' :: (inner ++ '>' :: rest)

/-- blanks `|` blanks `[-+a-zA-Z]+` blanks `>` anything -/
def FilterLine (l : Str) : Prop :=
  ∃ ws1 ws2 verb ws3 rest, All isWs ws1 ∧ All isWs ws2 ∧ All isVerbCh verb ∧ verb ≠ [] ∧ All isWs ws3 ∧
    l = ws1 ++ '|' :: (ws2 ++ (verb ++ (ws3 ++ '>' :: rest)))

inductive Kind where
  | comment | wait | send | filter | error
deriving Repr, DecidableEq

def Parsed.kind : Parsed → Kind
  | .comment _ _ => .comment
  | .wait _ => .wait
  | .send _ _ _ => .send
  | .filter _ _ => .filter
  | .error _ => .error

theorem scanComment_iff (l : Str) : scanComment l ≠ none ↔ CommentLine l := by
  unfold scanComment
  constructor
  · intro h
    cases he : expect isWs '#' l with
    | none => rw [he] at h; exact absurd rfl h
    | some r => exact ⟨_, r, all_takeWhile _ _, expect_some he⟩
  · rintro ⟨ws, r, hws, rfl⟩
    rw [expect_shape ws r hws (by decide)]
    nofun

theorem scanDelay_iff (l : Str) : scanDelay l ≠ none ↔ DelayLine l := by
  constructor
  · intro h
    obtain ⟨x, hx⟩ := Option.ne_none_iff_exists'.mp h
    obtain ⟨ws1, ws2, ws3, rest, h⟩ := scanDelay_some hx
    exact ⟨ws1, ws2, x.1, ws3, rest, h⟩
  · rintro ⟨ws1, ws2, arg, ws3, rest, h1, h2, ha, h3, rfl⟩
    simp [scanDelay_shape ws1 ws2 arg ws3 rest h1 h2 ha h3]

theorem scanCond_iff (l : Str) : scanCond l ≠ none ↔ CondLine l := by
  constructor
  · intro h
    obtain ⟨x, hx⟩ := Option.ne_none_iff_exists'.mp h
    obtain ⟨ws1, rest, h1, hi, _, e, _⟩ := scanCond_some hx
    exact ⟨ws1, x.1, rest, h1, hi, e⟩
  · rintro ⟨ws1, inner, rest, h1, hi, rfl⟩
    unfold scanCond
    rw [expect_shape ws1 _ h1 (by decide)]
    simp only [Option.bind_some]
    have hmem : '>' ∈ (inner ++ '>' :: rest).takeWhile notNL := by
      rw [List.takeWhile_append_of_pos hi, List.takeWhile_cons_of_pos (by decide)]
      exact List.mem_append_right _ List.mem_cons_self
    cases hs : splitLast '>' ((inner ++ '>' :: rest).takeWhile notNL) with
    | none => exact absurd hmem (splitLast_eq_none_iff.1 hs)
    | some ia => nofun

theorem scanFilter_iff (l : Str) : scanFilter l ≠ none ↔ FilterLine l := by
  constructor
  · intro h
    obtain ⟨x, hx⟩ := Option.ne_none_iff_exists'.mp h
    obtain ⟨ws1, ws2, ws3, rest, h1, h2, hv, hne, h3, e, _⟩ := scanFilter_some hx
    exact ⟨ws1, ws2, x.1, ws3, rest, h1, h2, hv, hne, h3, e⟩
  · rintro ⟨ws1, ws2, verb, ws3, rest, h1, h2, hv, hne, h3, rfl⟩
    simp [scanFilter_shape ws1 ws2 verb ws3 rest h1 h2 hv hne h3]

/-- why the shapes exclude one another: each expression fixes the first non-blank character -/
theorem scan_other_head (ws r : Str) (x : Char) (hws : All isWs ws) (hx : isWs x = false) :
    (x ≠ '#' → scanComment (ws ++ x :: r) = none) ∧ (x ≠ '[' → scanDelay (ws ++ x :: r) = none) ∧
    (x ≠ '<' → scanCond (ws ++ x :: r) = none) ∧ (x ≠ '|' → scanFilter (ws ++ x :: r) = none) := by
  refine ⟨?_, ?_, ?_, ?_⟩ <;> intro hne
  · simp [scanComment, expect_other ws r hws hx hne]
  · simp [scanDelay, expect_other ws r hws hx hne]
  · simp [scanCond, expect_other ws r hws hx hne]
  · simp [scanFilter, expect_other ws r hws hx hne]

theorem commentLine_scans {l : Str} (h : CommentLine l) :
    scanDelay l = none ∧ scanCond l = none ∧ scanFilter l = none := by
  obtain ⟨ws, r, hws, rfl⟩ := h
  obtain ⟨_, hdelay, hcond, hfilter⟩ := scan_other_head ws r '#' hws (by decide)
  exact ⟨hdelay (by decide), hcond (by decide), hfilter (by decide)⟩

theorem delayLine_scans {l : Str} (h : DelayLine l) :
    scanComment l = none ∧ scanCond l = none ∧ scanFilter l = none := by
  obtain ⟨ws, ws2, arg, ws3, rest, hws, _, _, _, rfl⟩ := h
  obtain ⟨hcomment, _, hcond, hfilter⟩ := scan_other_head ws (ws2 ++ (arg ++ (ws3 ++ ']' :: rest))) '[' hws (by decide)
  exact ⟨hcomment (by decide), hcond (by decide), hfilter (by decide)⟩

theorem condLine_scans {l : Str} (h : CondLine l) :
    scanComment l = none ∧ scanDelay l = none ∧ scanFilter l = none := by
  obtain ⟨ws, inner, rest, hws, _, rfl⟩ := h
  obtain ⟨hcomment, hdelay, _, hfilter⟩ := scan_other_head ws (inner ++ '>' :: rest) '<' hws (by decide)
  exact ⟨hcomment (by decide), hdelay (by decide), hfilter (by decide)⟩

theorem filterLine_scans {l : Str} (h : FilterLine l) :
    scanComment l = none ∧ scanDelay l = none ∧ scanCond l = none := by
  obtain ⟨ws, ws2, verb, ws3, rest, hws, _, _, _, _, rfl⟩ := h
  obtain ⟨hcomment, hdelay, hcond, _⟩ := scan_other_head ws (ws2 ++ (verb ++ (ws3 ++ '>' :: rest))) '|' hws (by decide)
  exact ⟨hcomment (by decide), hdelay (by decide), hcond (by decide)⟩

theorem parseLine_comment {c : Str → Bool} {l : Str} {x : Str × Str} (h : scanComment l = some x) :
    parseLine c l = .comment (x.1 == ['+']) x.2 := by
  simp [parseLine, h]

theorem parseLine_delay {c : Str → Bool} {l : Str} {x : Str × Str} (h : scanDelay l = some x) :
    parseLine c l = parseDelay x.1 x.2 := by
  simp [parseLine, h, (delayLine_scans ((scanDelay_iff l).mp (by simp [h]))).1]

theorem parseLine_cond {c : Str → Bool} {l : Str} {x : Str × Str} (h : scanCond l = some x) :
    parseLine c l = parseCond c x.1 x.2 := by
  have := condLine_scans ((scanCond_iff l).mp (by simp [h]))
  simp [parseLine, h, this.1, this.2.1]

theorem parseLine_filter {c : Str → Bool} {l : Str} {x : Str × Str} (h : scanFilter l = some x) :
    parseLine c l = parseFilter c x.1 x.2 := by
  have := filterLine_scans ((scanFilter_iff l).mp (by simp [h]))
  simp [parseLine, h, this.1, this.2.1, this.2.2]

theorem parseLine_plain {c : Str → Bool} {l : Str} (h : isPlain l = true) : parseLine c l = .send l 0 none := by
  simp only [isPlain, Bool.and_eq_true, Option.isNone_iff_eq_none] at h
  simp [parseLine, h]

theorem isPlain_iff (l : Str) :
    isPlain l = true ↔ ¬ CommentLine l ∧ ¬ DelayLine l ∧ ¬ CondLine l ∧ ¬ FilterLine l := by
  rw [← scanComment_iff, ← scanDelay_iff, ← scanCond_iff, ← scanFilter_iff]
  simp [isPlain, and_assoc]

theorem parseDelay_kind (arg msg : Str) :
    (parseDelay arg msg).kind = .wait ∨ (parseDelay arg msg).kind = .send ∨
      parseDelay arg msg = .error .delayFormat := by
  unfold parseDelay
  split
  · exact Or.inr (Or.inr rfl)
  · split
    · exact Or.inr (Or.inl rfl)
    · exact Or.inl rfl

theorem parseCond_kind (c : Str → Bool) (inner msg : Str) :
    (parseCond c inner msg).kind = .send ∨
      (∃ k, parseCond c inner msg = .error k ∧
        (k = .condArgs ∨ k = .condRegexp ∨ k = .condCount ∨ k = .condTimeout)) := by
  unfold parseCond
  split
  · exact Or.inr ⟨_, rfl, Or.inl rfl⟩
  · split
    · exact Or.inr ⟨_, rfl, Or.inr (Or.inl rfl)⟩
    · split
      · exact Or.inr ⟨_, rfl, Or.inr (Or.inr (Or.inl rfl))⟩
      · split
        · exact Or.inr ⟨_, rfl, Or.inr (Or.inr (Or.inr rfl))⟩
        · exact Or.inl rfl

theorem parseFilter_kind (c : Str → Bool) (verb arg : Str) :
    (parseFilter c verb arg).kind = .filter ∨
      (∃ k, parseFilter c verb arg = .error k ∧ (k = .filterVerb ∨ k = .filterRegexp)) := by
  unfold parseFilter
  split
  · exact Or.inr ⟨_, rfl, Or.inl rfl⟩
  · exact Or.inl rfl
  · split
    · exact Or.inl rfl
    · exact Or.inr ⟨_, rfl, Or.inr rfl⟩

/-- **C20 (total, exclusive)**: for every line (every byte string) and whatever `regexp.Compile`
    answers, `ParseLine` yields exactly one of comment / wait / send / filter command / reported
    error (there is no sixth outcome and no failure), and at most one of the four command
    shapes applies to a line, so the order of the cascade never matters. -/
theorem parse_total_exclusive (compiles : Str → Bool) (l : Str) :
    (∃ k : Kind, (parseLine compiles l).kind = k ∧ ∀ k', (parseLine compiles l).kind = k' → k' = k) ∧
    ¬ (CommentLine l ∧ DelayLine l) ∧ ¬ (CommentLine l ∧ CondLine l) ∧ ¬ (CommentLine l ∧ FilterLine l) ∧
    ¬ (DelayLine l ∧ CondLine l) ∧ ¬ (DelayLine l ∧ FilterLine l) ∧ ¬ (CondLine l ∧ FilterLine l) := by
  refine ⟨⟨_, rfl, fun _ h => h.symm⟩, ?_, ?_, ?_, ?_, ?_, ?_⟩
  · rintro ⟨h1, h2⟩; exact (scanDelay_iff l).mpr h2 (commentLine_scans h1).1
  · rintro ⟨h1, h2⟩; exact (scanCond_iff l).mpr h2 (commentLine_scans h1).2.1
  · rintro ⟨h1, h2⟩; exact (scanFilter_iff l).mpr h2 (commentLine_scans h1).2.2
  · rintro ⟨h1, h2⟩; exact (scanCond_iff l).mpr h2 (delayLine_scans h1).2.1
  · rintro ⟨h1, h2⟩; exact (scanFilter_iff l).mpr h2 (delayLine_scans h1).2.2
  · rintro ⟨h1, h2⟩; exact (scanFilter_iff l).mpr h2 (condLine_scans h1).2.2

/-- **C20 (kind by shape)**: which outcome a line gets is decided by its shape alone:
    comment lines are comments; delay lines are a wait, a send, or the delay-format error;
    condition lines are a send or one of the four condition errors; filter lines are a filter
    command or one of the two filter errors; every other line is a plain send. -/
theorem parse_kind_by_shape (compiles : Str → Bool) (l : Str) :
    (CommentLine l → (parseLine compiles l).kind = .comment) ∧
    (DelayLine l → (parseLine compiles l).kind = .wait ∨ (parseLine compiles l).kind = .send ∨
        parseLine compiles l = .error .delayFormat) ∧
    (CondLine l → (parseLine compiles l).kind = .send ∨
        ∃ k, parseLine compiles l = .error k ∧
          (k = .condArgs ∨ k = .condRegexp ∨ k = .condCount ∨ k = .condTimeout)) ∧
    (FilterLine l → (parseLine compiles l).kind = .filter ∨
        ∃ k, parseLine compiles l = .error k ∧ (k = .filterVerb ∨ k = .filterRegexp)) ∧
    (¬ CommentLine l → ¬ DelayLine l → ¬ CondLine l → ¬ FilterLine l →
        parseLine compiles l = .send l 0 none) := by
  refine ⟨?_, ?_, ?_, ?_, ?_⟩
  · intro h
    obtain ⟨x, hx⟩ := Option.ne_none_iff_exists'.mp ((scanComment_iff l).mpr h)
    rw [parseLine_comment hx]; rfl
  · intro h
    obtain ⟨x, hx⟩ := Option.ne_none_iff_exists'.mp ((scanDelay_iff l).mpr h)
    rw [parseLine_delay hx]
    exact parseDelay_kind _ _
  · intro h
    obtain ⟨x, hx⟩ := Option.ne_none_iff_exists'.mp ((scanCond_iff l).mpr h)
    rw [parseLine_cond hx]
    exact parseCond_kind _ _ _
  · intro h
    obtain ⟨x, hx⟩ := Option.ne_none_iff_exists'.mp ((scanFilter_iff l).mpr h)
    rw [parseLine_filter hx]
    exact parseFilter_kind _ _ _
  · intro h0 h1 h2 h3
    exact parseLine_plain ((isPlain_iff l).mpr ⟨h0, h1, h2, h3⟩)

/-- **C20 (comments)**: a line is parsed to a comment — and therefore never sent — exactly
    when its first non-blank character is `#`; nothing about the rest of the line or about
    `regexp.Compile` matters. -/
theorem comment_never_sent (compiles : Str → Bool) (l : Str) :
    CommentLine l ↔ ∃ echo msg, parseLine compiles l = .comment echo msg := by
  constructor
  · intro h
    obtain ⟨x, hx⟩ := Option.ne_none_iff_exists'.mp ((scanComment_iff l).mpr h)
    exact ⟨_, _, parseLine_comment hx⟩
  · rintro ⟨echo, msg, h⟩
    -- every other shape leaves only other kinds of outcome (`parse_kind_by_shape`)
    obtain ⟨-, hd, hc, hf, hp⟩ := parse_kind_by_shape compiles l
    rw [h] at hd hc hf hp
    refine Classical.byContradiction fun h0 => ?_
    by_cases h1 : DelayLine l
    · rcases hd h1 with h' | h' | h' <;> cases h'
    by_cases h2 : CondLine l
    · rcases hc h2 with h' | ⟨k, h', _⟩ <;> cases h'
    by_cases h3 : FilterLine l
    · rcases hf h3 with h' | ⟨k, h', _⟩ <;> cases h'
    · cases hp h0 h1 h2 h3

/-- the echo flag and the text of a comment: any number of `#`, then a run of `+`/`-` which
    is an echo request only if it is exactly `+`, blanks, then the text up to the end of line -/
theorem comment_exact (compiles : Str → Bool) (ws hs pm ws2 body : Str) (h1 : All isWs ws)
    (h2 : All isHash hs) (h3 : All isPM pm) (h4 : All isWs ws2)
    (n2 : NoHead isHash (pm ++ (ws2 ++ body))) (n3 : NoHead isPM (ws2 ++ body)) (n4 : NoHead isWs body) :
    parseLine compiles (ws ++ '#' :: (hs ++ (pm ++ (ws2 ++ body)))) = .comment (pm == ['+']) (dotStar body) := by
  rw [parseLine_comment (scanComment_shape ws hs pm ws2 body h1 h2 h3 h4 n2 n3 n4)]

/-- **C20 (plain lines)**: a line that has none of the four command shapes is sent verbatim,
    at once and unconditionally — every byte of it, blanks included. -/
theorem plain_verbatim (compiles : Str → Bool) (l : Str) (h0 : ¬ CommentLine l) (h1 : ¬ DelayLine l)
    (h2 : ¬ CondLine l) (h3 : ¬ FilterLine l) : parseLine compiles l = .send l 0 none :=
  (parse_kind_by_shape compiles l).2.2.2.2 h0 h1 h2 h3

/-- **C20 (delayed send / wait)**: for a line `blanks [ blanks ARG blanks ] blanks BODY`
    (`ARG` over `[a-zA-Z0-9.]`, `BODY` not starting with a blank): an empty `ARG` is the zero
    delay, any other `ARG` is the delay `time.ParseDuration` gives or else the line is the
    delay-format error; the message is exactly `BODY` up to the end of the line (leading
    blanks dropped, nothing else touched); an empty message makes it a wait. -/
theorem delayed_send_exact (compiles : Str → Bool) (ws1 ws2 arg ws3 ws4 body : Str)
    (h1 : All isWs ws1) (h2 : All isWs ws2) (ha : All isDelayCh arg) (h3 : All isWs ws3)
    (h4 : All isWs ws4) (hb : NoHead isWs body) :
    parseLine compiles (ws1 ++ '[' :: (ws2 ++ (arg ++ (ws3 ++ ']' :: (ws4 ++ body))))) =
      match (if arg = [] then some 0 else parseDuration arg) with
      | none => .error .delayFormat
      | some t => if dotStar body = [] then .wait t else .send (dotStar body) t none := by
  rw [parseLine_delay (scanDelay_shape ws1 ws2 arg ws3 (ws4 ++ body) h1 h2 ha h3)]
  simp only [dw_split h4 hb, parseDelay, gt_iff_lt, List.length_pos_iff, ne_eq, ite_not]
  rfl

/-- the everyday case: one line without newline, a valid duration, a non-empty message -/
theorem delayed_send_exact_line (compiles : Str → Bool) (ws1 ws2 arg ws3 ws4 body : Str) (t : Int)
    (h1 : All isWs ws1) (h2 : All isWs ws2) (ha : All isDelayCh arg) (h3 : All isWs ws3)
    (h4 : All isWs ws4) (hb : NoHead isWs body) (hnl : All notNL body) (hne : body ≠ [])
    (hne' : arg ≠ []) (ht : parseDuration arg = some t) :
    parseLine compiles (ws1 ++ '[' :: (ws2 ++ (arg ++ (ws3 ++ ']' :: (ws4 ++ body))))) = .send body t none := by
  rw [delayed_send_exact compiles ws1 ws2 arg ws3 ws4 body h1 h2 ha h3 h4 hb, dotStar_of_all hnl]
  simp [hne, hne', ht]

/-- **C20 (conditional send)**: for a line
    `blanks < blanks 'PAT' blanks , blanks COUNT blanks , blanks TIMEOUT JUNK > blanks BODY`
    (no newline inside `<…>`, no further `>` on the line after it): the pattern is exactly the
    text between the quotes, the count exactly `strconv.Atoi COUNT`, the timeout exactly
    `time.ParseDuration TIMEOUT`, the message exactly `BODY` up to the end of line, delay 0;
    a pattern that does not compile, a bad count and a bad timeout are three distinct errors,
    in that order. `JUNK` (anything not continuing the timeout) is ignored. -/
theorem conditional_send_exact (compiles : Str → Bool)
    (ws0 ws1 pat ws2 ws3 cnt ws4 ws5 tmo junk ws6 body : Str)
    (h0 : All isWs ws0) (h1 : All isWs ws1) (hp : All notQuote pat) (h2 : All isWs ws2)
    (h3 : All isWs ws3) (hc : All isDigit cnt) (h4 : All isWs ws4) (h5 : All isWs ws5)
    (ht : All isTimeoutCh tmo) (n5 : NoHead isWs (tmo ++ junk)) (nj : NoHead isTimeoutCh junk)
    (h6 : All isWs ws6) (hb : NoHead isWs body)
    (hnl : All notNL (ws1 ++ '\'' :: (pat ++ '\'' :: (ws2 ++ ',' :: (ws3 ++ (cnt ++ (ws4 ++ ',' :: (ws5 ++ (tmo ++ junk)))))))))
    (hgt : '>' ∉ dotStar (ws6 ++ body)) :
    parseLine compiles
      (ws0 ++ '<' :: ((ws1 ++ '\'' :: (pat ++ '\'' :: (ws2 ++ ',' :: (ws3 ++ (cnt ++ (ws4 ++ ',' :: (ws5 ++ (tmo ++ junk))))))))
        ++ '>' :: (ws6 ++ body))) =
      if compiles pat = false then .error .condRegexp
      else match atoi cnt with
        | none => .error .condCount
        | some n =>
          match parseDuration tmo with
          | none => .error .condTimeout
          | some d => .send (dotStar body) 0 (some { pattern := pat, count := n, timeout := d }) := by
  rw [parseLine_cond (scanCond_shape ws0 _ (ws6 ++ body) h0 hnl hgt)]
  simp only [dw_split h6 hb, parseCond,
    scanCondArgs_shape ws1 pat ws2 ws3 cnt ws4 ws5 tmo junk h1 hp h2 h3 hc h4 h5 ht n5 nj, Bool.not_eq_true']
  rfl

/-- **C20 (filter command)**: for a line `blanks | blanks VERB blanks > blanks BODY` the verb
    is read case-insensitively (`+ a accept`, `- d deny`, `r reset`, anything else is the
    filter-verb error); reset ignores the rest; accept / deny carry exactly `BODY` up to the
    end of the line as pattern text, or the filter-regexp error if it does not compile. -/
theorem filter_command_exact (compiles : Str → Bool) (ws1 ws2 verb ws3 ws4 body : Str)
    (h1 : All isWs ws1) (h2 : All isWs ws2) (hv : All isVerbCh verb) (hne : verb ≠ [])
    (h3 : All isWs ws3) (h4 : All isWs ws4) (hb : NoHead isWs body) :
    parseLine compiles (ws1 ++ '|' :: (ws2 ++ (verb ++ (ws3 ++ '>' :: (ws4 ++ body))))) =
      match verbOf verb with
      | none => .error .filterVerb
      | some .reset => .filter .reset none
      | some v => if compiles (dotStar body) then .filter v (some (dotStar body)) else .error .filterRegexp := by
  rw [parseLine_filter (scanFilter_shape ws1 ws2 verb ws3 (ws4 ++ body) h1 h2 hv hne h3)]
  simp only [dw_split h4 hb, parseFilter]
  rfl

/-- **C20 (two-phase protocol is sound)**: `ParseLine` consults `regexp.Compile` about at most
    one string, `wanted line`; two oracles that agree on it give the same result. -/
theorem parse_uses_only_wanted (c1 c2 : Str → Bool) (l : Str)
    (h : ∀ p, wanted l = some p → c1 p = c2 p) : parseLine c1 l = parseLine c2 l := by
  cases h2 : scanCond l with
  | some x =>
    have hs := condLine_scans ((scanCond_iff l).mp (by simp [h2]))
    rw [parseLine_cond h2, parseLine_cond h2]
    unfold parseCond
    cases h3 : scanCondArgs x.1 with
    | none => rfl
    | some y =>
      obtain ⟨pat, cnt, tmo⟩ := y
      simp only
      rw [h pat (by simp [wanted, hs.1, hs.2.1, h2, h3])]
  | none =>
    cases h3 : scanFilter l with
    | some x =>
      have hs := filterLine_scans ((scanFilter_iff l).mp (by simp [h3]))
      rw [parseLine_filter h3, parseLine_filter h3]
      unfold parseFilter
      cases hv : verbOf x.1 with
      | none => rfl
      | some v =>
        cases v with
        | reset => rfl
        | accept | deny =>
          simp only
          rw [h x.2 (by simp [wanted, hs.1, hs.2.1, h2, h3, hv])]
    | none =>
      -- comments, delays and plain lines never ask: no remaining branch mentions the oracle
      unfold parseLine
      simp only [h2, h3]

/-- concrete round trips: messages starting with `[ < | #`, a pattern containing `>` -/
def print_parse_roundtrip_example : Bool :=
  let c : Str → Bool := fun _ => true
  [Parsed.send "[1s] x".toList 0 none, .send "# x".toList 5 none, .send "<'a',1,1s> y".toList 0 none,
   .send "|+> z".toList 1500000000 none, .send " plain \n text ".toList 0 none,
   .send "{\"stop\":\"motor\"}".toList 0 (some ⟨"a>b, \\\"x\\\"".toList, 5, 10000000000⟩),
   .comment true "+ echoed".toList, .comment false [], .wait 9223372036854775807,
   .filter .deny (some "\"hb\"".toList), .filter .reset none].all
    (fun p => decide (parseLine c (render p) = p))

def maxInt64 : Int := 9223372036854775807

/-- text that survives `\s*(.*)` unchanged: no newline, does not begin with a blank -/
def okText (m : Str) : Bool :=
  m.all notNL && (match m with | c :: _ => !isWs c | [] => true)

def inRange (d : Int) : Bool := decide (0 ≤ d) && decide (d ≤ maxInt64)

/-- the commands `render` can spell (explicit, decidable):
    * comment: text without newline, not starting with a blank (it may be empty, and may start with `+ - #`);
    * wait: delay within `0 … 2^63-1` ns;
    * plain send: either delay 0 and the text has none of the command shapes (then *any* bytes,
      blanks and newlines included), or delay in range and a non-empty text without newline not
      starting with a blank — this covers texts starting with `[`, `<`, `|`, `#`;
    * conditional send: delay 0 (the format has no place for one), text as above but possibly
      empty and without `>` (the condition ends at the LAST `>` of the line), pattern without
      `'` and newline that compiles, count and timeout within `0 … 2^63-1`;
    * filter reset without pattern; accept / deny with a pattern text as above that compiles. -/
def wf (compiles : Str → Bool) : Parsed → Bool
  | .comment _ msg => okText msg
  | .wait d => inRange d
  | .send msg d none => (decide (d = 0) && isPlain msg) || (inRange d && okText msg && !msg.isEmpty)
  | .send msg d (some c) =>
      decide (d = 0) && okText msg && !msg.contains '>' && c.pattern.all notQuote && c.pattern.all notNL
        && compiles c.pattern && inRange c.count && inRange c.timeout
  | .filter .reset p => p.isNone
  | .filter _ p => match p with | some q => okText q && compiles q | none => false
  | .error _ => false

def WellFormed (compiles : Str → Bool) (p : Parsed) : Prop := wf compiles p = true

instance (compiles : Str → Bool) (p : Parsed) : Decidable (WellFormed compiles p) := by
  unfold WellFormed; infer_instance

theorem okText_spec {m : Str} (h : okText m = true) : All notNL m ∧ NoHead isWs m := by
  simp only [okText, Bool.and_eq_true, List.all_eq_true] at h
  refine ⟨h.1, ?_⟩
  intro c r e
  subst e
  simpa using h.2

theorem renderDur_all {p : Char → Bool} (hd : ∀ c, isDigit c = true → p c = true) (hn : p 'n' = true)
    (hs : p 's' = true) (d : Int) : All p (renderDur d) :=
  all_append (all_mono hd (natDigits_all _)) (all_cons hn (all_cons hs all_nil))

theorem renderDur_delayCh : ∀ d, All isDelayCh (renderDur d) :=
  renderDur_all (fun c h => by simp [isDelayCh, h]) rfl rfl

theorem renderDur_ne_nil (d : Int) : renderDur d ≠ [] := by
  simp [renderDur, natDigits_ne_nil]

theorem inRange_spec {d : Int} (h : inRange d = true) :
    d.toNat ≤ two63 - 1 ∧ (d.toNat : Int) = d := by
  simp only [inRange, maxInt64, Bool.and_eq_true, decide_eq_true_eq] at h
  obtain ⟨h0, h1⟩ := h
  have h1 := of_decide_eq_true h1
  have e : (d.toNat : Int) = d := Int.toNat_of_nonneg h0
  refine ⟨?_, e⟩
  simp only [two63]
  omega

theorem parseDuration_renderDur {d : Int} (h : inRange d = true) : parseDuration (renderDur d) = some d := by
  obtain ⟨h1, h2⟩ := inRange_spec h
  unfold renderDur
  rw [parseDuration_ns _ h1, h2]

/-- **C20 (round trip)**: every well-formed command survives printing and parsing unchanged:
    `parseLine (render c) = c` — including messages that themselves start with `[`, `<`, `|`
    or `#`, empty comments, the extreme delays, patterns containing `>` or `,`.  -/
theorem print_parse_roundtrip (compiles : Str → Bool) (p : Parsed) (h : WellFormed compiles p) :
    parseLine compiles (render p) = p := by
  unfold WellFormed at h
  cases p with
  | error k => simp [wf] at h
  | comment echo msg =>
    simp only [wf] at h
    obtain ⟨hnl, hws⟩ := okText_spec h
    refine (comment_exact compiles [] [] [if echo then '+' else '-'] [' '] msg all_nil all_nil
      (all_cons (by cases echo <;> decide) all_nil) ws_of_space
      (nohead_cons _ (by cases echo <;> decide)) (nohead_cons _ (by decide)) hws).trans ?_
    rw [dotStar_of_all hnl]
    cases echo <;> rfl
  | wait d =>
    simp only [wf] at h
    refine (delayed_send_exact compiles [] [] (renderDur d) [] [] [] all_nil all_nil
      (renderDur_delayCh d) all_nil all_nil nohead_nil).trans ?_
    rw [if_neg (renderDur_ne_nil d), parseDuration_renderDur h]
    rfl
  | filter v pat =>
    cases v with
    | reset =>
      simp only [wf, Option.isNone_iff_eq_none] at h
      subst h
      exact filter_command_exact compiles [] [] ['r'] [] [] [] all_nil all_nil
        (all_cons (by decide) all_nil) (by simp) all_nil all_nil nohead_nil
    | accept | deny =>
      cases pat with
      | none => simp [wf] at h
      | some q =>
        simp only [wf, Bool.and_eq_true] at h
        obtain ⟨hnl, hws⟩ := okText_spec h.1
        -- the one-character verb is the one `render` wrote
        refine (filter_command_exact compiles [] [] [_] [] [' '] q all_nil all_nil
          (all_cons (by decide) all_nil) (by simp) all_nil ws_of_space hws).trans ?_
        rw [dotStar_of_all hnl, h.2]
        rfl
  | send msg d cond =>
    cases cond with
    | none =>
      simp only [wf, Bool.or_eq_true, Bool.and_eq_true, decide_eq_true_eq] at h
      simp only [render]
      by_cases hp : d = 0 ∧ isPlain msg = true
      · rw [if_pos hp]
        rw [parseLine_plain hp.2, hp.1]
      · rw [if_neg hp]
        rcases h with h | h
        · exact absurd h hp
        · obtain ⟨⟨hr, ht⟩, hne⟩ := h
          obtain ⟨hnl, hws⟩ := okText_spec ht
          have hne' : msg ≠ [] := by
            intro e; subst e; simp at hne
          have harg : All isDelayCh (if d = 0 then [] else renderDur d) := by
            split
            · exact all_nil
            · exact renderDur_delayCh d
          refine (delayed_send_exact compiles [] [] (if d = 0 then [] else renderDur d) [] [' '] msg all_nil
            all_nil harg all_nil ws_of_space hws).trans ?_
          rw [dotStar_of_all hnl]
          by_cases hd : d = 0 <;>
            simp only [hd, if_true, if_false, renderDur_ne_nil, parseDuration_renderDur hr, hne']
    | some c =>
      obtain ⟨pat, cnt, tmo⟩ := c
      simp only [wf, Bool.and_eq_true, decide_eq_true_eq, Bool.not_eq_true', List.all_eq_true] at h
      obtain ⟨⟨⟨⟨⟨⟨⟨hd, ht⟩, hgt⟩, hq⟩, hpn⟩, hcomp⟩, hcnt⟩, htmo⟩ := h
      obtain ⟨hnl, hws⟩ := okText_spec ht
      obtain ⟨hc1, hc2⟩ := inRange_spec hcnt
      have hgt' : '>' ∉ dotStar ([' '] ++ msg) := fun hm => by
        have : '>' ∈ msg := by simpa using (List.takeWhile_prefix notNL).mem hm
        simp [this] at hgt
      have hn5 : NoHead isWs (renderDur tmo ++ []) :=
        nohead_append (disj_symm ws_not_delayCh) (renderDur_delayCh tmo) nohead_nil
      have hinner : All notNL ('\'' :: (pat ++ '\'' :: ',' :: (natDigits cnt.toNat ++ ',' :: (renderDur tmo ++ [])))) :=
        all_cons (by decide) (all_append hpn (all_cons (by decide) (all_cons (by decide)
          (all_append (all_mono digit_notNL (natDigits_all _))
            (all_cons (by decide) (all_append (renderDur_all digit_notNL rfl rfl tmo) all_nil))))))
      have := conditional_send_exact compiles [] [] pat [] [] (natDigits cnt.toNat) [] [] (renderDur tmo) []
        [' '] msg all_nil all_nil hq all_nil all_nil (natDigits_all _) all_nil all_nil
        (renderDur_all (fun c h => by simp [isTimeoutCh, h]) rfl rfl tmo) hn5 nohead_nil ws_of_space hws hinner hgt'
      rw [dotStar_of_all hnl, atoi_natDigits _ hc1, parseDuration_renderDur htmo, hc2] at this
      simp only [hcomp, Bool.true_eq_false, if_false] at this
      simp only [List.nil_append, List.append_nil, List.cons_append, List.append_assoc] at this
      simp only [render]
      rw [hd]
      exact this

/-- **C20 (a delay needs a unit)**: `[5] foo`, `[ 1.5 ]`, `[7]` … — a delay argument made of
    digits and dots only (except the lone `0`) is reported as an error, whatever its length.
    (Before commit e9dd7a6 one-character arguments were skipped unparsed.) -/
theorem delay_without_unit_rejected (compiles : Str → Bool) (ws1 ws2 arg ws3 rest : Str)
    (h1 : All isWs ws1) (h2 : All isWs ws2) (ha : All isNumCh arg) (h3 : All isWs ws3)
    (hne : arg ≠ []) (h0 : arg ≠ ['0']) :
    parseLine compiles (ws1 ++ '[' :: (ws2 ++ (arg ++ (ws3 ++ ']' :: rest)))) = .error .delayFormat := by
  have had : All isDelayCh arg := all_mono (fun c h => by
    rcases (Bool.or_eq_true _ _).mp h with h | h <;> simp [isDelayCh, h]) ha
  rw [parseLine_delay (scanDelay_shape ws1 ws2 arg ws3 rest h1 h2 had h3)]
  have hl : arg.length > 0 := List.length_pos_iff.mpr hne
  simp only [parseDelay, hl, if_true, parseDuration_numOnly ha h0]

/-- the fuel of the duration loop never runs out: any fuel ≥ the input length gives the same
    answer, so the model's "out of fuel" branch is unreachable from `parseDuration` -/
theorem durLoop_fuel (n m : Nat) (s : Str) (d : Nat) (hn : s.length ≤ n) (hm : s.length ≤ m) :
    durLoop n s d = durLoop m s d := by
  induction n generalizing m s d with
  | zero =>
    cases s with
    | nil => cases m <;> rfl
    | cons c r => simp at hn
  | succ n ih =>
    cases s with
    | nil => cases m <;> rfl
    | cons c r =>
      cases m with
      | zero => simp at hm
      | succ m =>
        unfold durLoop
        cases ht : durTerm (c :: r) with
        | none => rfl
        | some vr =>
          obtain ⟨v, rest⟩ := vr
          have hs := durTerm_shrinks ht
          simp only [List.length_cons] at hn hm hs
          simp only
          split
          · rfl
          · exact ih m rest _ (by omega) (by omega)

/-- README "DURATIONS", as the code reads them: what `time.ParseDuration` accepts
    (differences to the README prose: DESIGN.md §7.3) -/
def ValidDuration (s : Str) : Prop := ∃ d, parseDuration s = some d

/-- COUNT: a non-empty string of decimal digits whose value fits a 64-bit `int` -/
def ValidCount (s : Str) : Prop := s ≠ [] ∧ Nat.ofDigitChars 10 s 0 ≤ 9223372036854775807

def AcceptWord (v : Str) : Prop :=
  v.map toLowerCh = ['+'] ∨ v.map toLowerCh = ['a'] ∨ v.map toLowerCh = ['a', 'c', 'c', 'e', 'p', 't']
def DenyWord (v : Str) : Prop :=
  v.map toLowerCh = ['-'] ∨ v.map toLowerCh = ['d'] ∨ v.map toLowerCh = ['d', 'e', 'n', 'y']
def ResetWord (v : Str) : Prop :=
  v.map toLowerCh = ['r'] ∨ v.map toLowerCh = ['r', 'e', 's', 'e', 't']

/-- The documented grammar of one play-file line (README "COMMANDS" … "SEND/CONDITION", with
    the command prefixes as `regex.go` fixes them).  A line is well-formed iff it is
    * a comment: first non-blank character `#`; or
    * a delay line `[ARG]…` whose `ARG` is empty or a valid duration; or
    * a condition line `<'PAT',COUNT,TIMEOUT JUNK>…` (no newline inside, the `>` is the last one
      on the line) whose pattern compiles, whose count is a valid count and whose timeout is a
      valid duration; or
    * a filter line `|VERB>BODY` whose verb is a reset word, or an accept/deny word with a
      `BODY` (up to the end of line) that compiles; or
    * none of the four shapes (a plain message). -/
def WellFormedLine (compiles : Str → Bool) (l : Str) : Prop :=
  CommentLine l ∨
  (∃ ws1 ws2 arg ws3 rest, All isWs ws1 ∧ All isWs ws2 ∧ All isDelayCh arg ∧ All isWs ws3 ∧
      l = ws1 ++ '[' :: (ws2 ++ (arg ++ (ws3 ++ ']' :: rest))) ∧ (arg = [] ∨ ValidDuration arg)) ∨
  (∃ ws0 ws1 pat ws2 ws3 cnt ws4 ws5 tmo junk rest,
      All isWs ws0 ∧ All isWs ws1 ∧ All notQuote pat ∧ All isWs ws2 ∧ All isWs ws3 ∧ All isDigit cnt ∧
      All isWs ws4 ∧ All isWs ws5 ∧ All isTimeoutCh tmo ∧ NoHead isWs (tmo ++ junk) ∧ NoHead isTimeoutCh junk ∧
      All notNL (ws1 ++ '\'' :: (pat ++ '\'' :: (ws2 ++ ',' :: (ws3 ++ (cnt ++ (ws4 ++ ',' :: (ws5 ++ (tmo ++ junk)))))))) ∧
      '>' ∉ dotStar rest ∧
      l = ws0 ++ '<' :: ((ws1 ++ '\'' :: (pat ++ '\'' :: (ws2 ++ ',' :: (ws3 ++ (cnt ++ (ws4 ++ ',' :: (ws5 ++ (tmo ++ junk))))))))
            ++ '>' :: rest) ∧
      compiles pat = true ∧ ValidCount cnt ∧ ValidDuration tmo) ∨
  (∃ ws1 ws2 verb ws3 ws4 body, All isWs ws1 ∧ All isWs ws2 ∧ All isVerbCh verb ∧ verb ≠ [] ∧ All isWs ws3 ∧
      All isWs ws4 ∧ NoHead isWs body ∧
      l = ws1 ++ '|' :: (ws2 ++ (verb ++ (ws3 ++ '>' :: (ws4 ++ body)))) ∧
      (ResetWord verb ∨ ((AcceptWord verb ∨ DenyWord verb) ∧ compiles (dotStar body) = true))) ∨
  (¬ CommentLine l ∧ ¬ DelayLine l ∧ ¬ CondLine l ∧ ¬ FilterLine l)

theorem verbOf_cases (v : Str) :
    (verbOf v = some .deny ∧ DenyWord v) ∨ (verbOf v = some .accept ∧ AcceptWord v) ∨
    (verbOf v = some .reset ∧ ResetWord v) ∨
    (verbOf v = none ∧ ¬ DenyWord v ∧ ¬ AcceptWord v ∧ ¬ ResetWord v) := by
  by_cases hd : DenyWord v
  · exact .inl ⟨if_pos hd, hd⟩
  by_cases ha : AcceptWord v
  · exact .inr (.inl ⟨(if_neg hd).trans (if_pos ha), ha⟩)
  by_cases hr : ResetWord v
  · exact .inr (.inr (.inl ⟨(if_neg hd).trans ((if_neg ha).trans (if_pos hr)), hr⟩))
  · exact .inr (.inr (.inr ⟨(if_neg hd).trans ((if_neg ha).trans (if_neg hr)), hd, ha, hr⟩))

theorem reset_excl {v : Str} (hr : ResetWord v) : ¬ DenyWord v ∧ ¬ AcceptWord v := by
  -- two spellings of `reset` against three of the other word: the lower-cased texts differ
  constructor
  · rintro (h | h | h) <;> rcases hr with hr | hr <;> exact absurd (h.symm.trans hr) (by decide)
  · rintro (h | h | h) <;> rcases hr with hr | hr <;> exact absurd (h.symm.trans hr) (by decide)

theorem parseDelay_ok (arg msg : Str) :
    isError (parseDelay arg msg) = false ↔ arg = [] ∨ ValidDuration arg := by
  unfold parseDelay ValidDuration
  cases arg with
  | nil => simp only [List.length_nil, Nat.lt_irrefl, if_false, true_or, iff_true]; split <;> rfl
  | cons a as =>
    simp only [List.length_cons, Nat.zero_lt_succ, if_true, reduceCtorEq, false_or]
    cases parseDuration (a :: as) with
    | none => simp [isError]
    | some d => simp only [Option.some.injEq, exists_eq', iff_true]; split <;> rfl

theorem parseCond_ok (c : Str → Bool) (inner msg : Str) :
    isError (parseCond c inner msg) = false ↔ ∃ pat cnt tmo, scanCondArgs inner = some (pat, cnt, tmo) ∧
      c pat = true ∧ (∃ n, atoi cnt = some n) ∧ ValidDuration tmo := by
  unfold parseCond
  constructor
  · intro h
    split at h
    · cases h
    · next pat cnt tmo hs =>
      split at h
      · cases h
      · next hc =>
        split at h
        · cases h
        · next n hn =>
          split at h
          · cases h
          · next d hd => exact ⟨pat, cnt, tmo, hs, by simpa using hc, ⟨n, hn⟩, ⟨d, hd⟩⟩
  · rintro ⟨pat, cnt, tmo, hs, hc, ⟨n, hn⟩, ⟨d, hd⟩⟩
    simp only [hs, hc, hn, hd, Bool.not_true, Bool.false_eq_true, if_false]
    rfl

theorem parseFilter_ok (c : Str → Bool) (verb arg : Str) :
    isError (parseFilter c verb arg) = false ↔
      ResetWord verb ∨ ((AcceptWord verb ∨ DenyWord verb) ∧ c arg = true) := by
  unfold parseFilter
  rcases verbOf_cases verb with ⟨e, hw⟩ | ⟨e, hw⟩ | ⟨e, hw⟩ | ⟨e, nd, na, nr⟩ <;> rw [e]
  · have nr : ¬ ResetWord verb := fun hr => (reset_excl hr).1 hw
    cases c arg <;> simp [isError, hw, nr]
  · have nr : ¬ ResetWord verb := fun hr => (reset_excl hr).2 hw
    cases c arg <;> simp [isError, hw, nr]
  · simp [isError, hw]
  · simp [isError, nd, na, nr]

theorem parseLine_ok (c : Str → Bool) (l : Str) :
    isError (parseLine c l) = false ↔
      scanComment l ≠ none ∨ (∃ x, scanDelay l = some x ∧ isError (parseDelay x.1 x.2) = false) ∨
      (∃ x, scanCond l = some x ∧ isError (parseCond c x.1 x.2) = false) ∨
      (∃ x, scanFilter l = some x ∧ isError (parseFilter c x.1 x.2) = false) ∨
      isPlain l = true := by
  constructor
  · intro h
    cases h0 : scanComment l with
    | some x => exact .inl nofun
    | none =>
      cases h1 : scanDelay l with
      | some x => exact .inr (.inl ⟨x, rfl, by rwa [parseLine_delay h1] at h⟩)
      | none =>
        cases h2 : scanCond l with
        | some x => exact .inr (.inr (.inl ⟨x, rfl, by rwa [parseLine_cond h2] at h⟩))
        | none =>
          cases h3 : scanFilter l with
          | some x => exact .inr (.inr (.inr (.inl ⟨x, rfl, by rwa [parseLine_filter h3] at h⟩)))
          | none => exact .inr (.inr (.inr (.inr (by simp [isPlain, h0, h1, h2, h3]))))
  · rintro (h | ⟨x, hx, h⟩ | ⟨x, hx, h⟩ | ⟨x, hx, h⟩ | h)
    · obtain ⟨x, hx⟩ := Option.ne_none_iff_exists'.mp h
      rw [parseLine_comment hx]
      rfl
    · rwa [parseLine_delay hx]
    · rwa [parseLine_cond hx]
    · rwa [parseLine_filter hx]
    · rw [parseLine_plain h]
      rfl

theorem wellFormed_iff (compiles : Str → Bool) (l : Str) :
    WellFormedLine compiles l ↔ isError (parseLine compiles l) = false := by
  unfold WellFormedLine
  refine Iff.trans (or_congr (scanComment_iff l).symm (or_congr ?_ (or_congr ?_ (or_congr ?_ ?_))))
    (parseLine_ok compiles l).symm
  · simp only [parseDelay_ok]
    constructor
    · rintro ⟨ws1, ws2, arg, ws3, rest, h1, h2, ha, h3, rfl, hv⟩
      exact ⟨_, scanDelay_shape ws1 ws2 arg ws3 rest h1 h2 ha h3, hv⟩
    · rintro ⟨x, hx, hv⟩
      obtain ⟨ws1, ws2, ws3, rest, a1, a2, aa, a3, e⟩ := scanDelay_some hx
      exact ⟨ws1, ws2, x.1, ws3, rest, a1, a2, aa, a3, e, hv⟩
  · simp only [parseCond_ok]
    constructor
    · rintro ⟨ws0, ws1, pat, ws2, ws3, cnt, ws4, ws5, tmo, junk, rest, h0, h1, hp, h2, h3, hc, h4, h5, ht, n5, nj,
        hnl, hgt, rfl, hcomp, hcnt, hd⟩
      exact ⟨_, scanCond_shape ws0 _ rest h0 hnl hgt, pat, cnt, tmo,
        scanCondArgs_shape ws1 pat ws2 ws3 cnt ws4 ws5 tmo junk h1 hp h2 h3 hc h4 h5 ht n5 nj, hcomp,
        (atoi_digits_iff hc).mpr hcnt, hd⟩
    · rintro ⟨⟨inner, msg⟩, hx, pat, cnt, tmo, ha, hcomp, hcnt, hd⟩
      obtain ⟨ws0, rest, a0, ai, agt, e, _⟩ := scanCond_some hx
      obtain ⟨ws1, ws2, ws3, ws4, ws5, junk, b1, bp, b2, b3, bc, b4, b5, bt, n5, nj, rfl⟩ := scanCondArgs_some ha
      exact ⟨ws0, ws1, pat, ws2, ws3, cnt, ws4, ws5, tmo, junk, rest, a0, b1, bp, b2, b3, bc, b4, b5, bt, n5, nj,
        ai, agt, e, hcomp, (atoi_digits_iff bc).mp hcnt, hd⟩
  · simp only [parseFilter_ok]
    constructor
    · rintro ⟨ws1, ws2, verb, ws3, ws4, body, h1, h2, hv, hne, h3, h4, hb, rfl, hverb⟩
      refine ⟨_, scanFilter_shape ws1 ws2 verb ws3 (ws4 ++ body) h1 h2 hv hne h3, ?_⟩
      rwa [dw_split h4 hb]
    · rintro ⟨x, hx, hverb⟩
      obtain ⟨ws1, ws2, ws3, rest, a1, a2, av, ane, a3, e, hx2⟩ := scanFilter_some hx
      exact ⟨ws1, ws2, x.1, ws3, rest.takeWhile isWs, rest.dropWhile isWs, a1, a2, av, ane, a3, all_takeWhile _ _,
        nohead_dropWhile _ _, by rwa [List.takeWhile_append_dropWhile], hx2 ▸ hverb⟩
  · exact (isPlain_iff l).symm

/-- a line is reported as an error exactly when it is not well-formed -/
theorem parse_error_iff_malformed (compiles : Str → Bool) (l : Str) :
    isError (parseLine compiles l) = true ↔ ¬ WellFormedLine compiles l := by
  rw [wellFormed_iff]
  cases isError (parseLine compiles l) <;> simp

theorem not_error_of_wellFormed (compiles : Str → Bool) (l : Str) (h : WellFormedLine compiles l) :
    isError (parseLine compiles l) = false := (wellFormed_iff compiles l).1 h

theorem wellFormed_of_not_error (compiles : Str → Bool) (l : Str)
    (h : isError (parseLine compiles l) = false) : WellFormedLine compiles l := (wellFormed_iff compiles l).2 h

/-- well-formedness is decidable (by running the parser) -/
instance (compiles : Str → Bool) (l : Str) : Decidable (WellFormedLine compiles l) :=
  decidable_of_iff (isError (parseLine compiles l) = false)
    ⟨wellFormed_of_not_error compiles l, not_error_of_wellFormed compiles l⟩

theorem check_err_iff (ps : List Parsed) : (check ps).2 = true ↔ ∃ p ∈ ps, isError p = true := by
  simp only [check, Bool.not_eq_true', List.isEmpty_eq_false_iff, ne_eq, List.filterMap_eq_nil_iff,
    Classical.not_forall, exists_prop]
  exact exists_congr fun p => and_congr_right fun _ => by cases p <;> simp [isError]

/-- **C20 (Check)**: for every file (list of lines) `Check` returns an error precisely when
    some line is malformed with respect to `WellFormedLine`; and it lists one entry per
    malformed line. -/
theorem check_iff_malformed (compiles : Str → Bool) (lines : List Str) :
    (checkLines compiles lines).2 = true ↔ ∃ l ∈ lines, ¬ WellFormedLine compiles l := by
  unfold checkLines
  rw [check_err_iff]
  constructor
  · rintro ⟨p, hp, he⟩
    obtain ⟨l, hl, rfl⟩ := List.mem_map.mp hp
    exact ⟨l, hl, (parse_error_iff_malformed compiles l).mp he⟩
  · rintro ⟨l, hl, hw⟩
    exact ⟨_, List.mem_map.mpr ⟨l, hl, rfl⟩, (parse_error_iff_malformed compiles l).mpr hw⟩

example : parseLine (fun _ => true) "  [ 1.5s ]  {\"some\":\"msg\"}".toList
    = .send "{\"some\":\"msg\"}".toList 1500000000 none := by decide +kernel
example : parseLine (fun _ => true) "[5] foo".toList = .error .delayFormat := by decide +kernel
example : parseLine (fun _ => true) "[] # sent".toList = .send "# sent".toList 0 none := by decide +kernel
example : parseLine (fun _ => true) " #+ echoed".toList = .comment true "echoed".toList := by decide +kernel
example : print_parse_roundtrip_example = true := by decide +kernel
example : checkLines (fun _ => true) ["# ok".toList, "[5] foo".toList, "[5s] foo".toList, "|r>".toList]
    = ([.delayFormat], true) := by decide +kernel
example : ¬ WellFormedLine (fun _ => true) "[5] foo".toList := by decide +kernel
example : WellFormedLine (fun _ => true) "<'x',5,10s junk> go".toList := by decide +kernel
example : parseLine (fun _ => true) "<'a>b',5,10s> x>y".toList
    = .send "y".toList 0 (some ⟨"a>b',5,10s> x".toList.take 3, 5, 10000000000⟩) := by decide +kernel

end PlayFile
