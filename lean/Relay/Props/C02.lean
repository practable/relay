import Relay.Model.TtlCode

/-!
# C02 — connection codes are single-use, short-lived and die with the booking

For every history of issue / exchange / sweep / delete-by-booking / clock moves (any order, any
number of codes, clock moving in any direction):
* `exchange_at_most_once`            each code is exchanged successfully at most once
* `exchange_concurrent_at_most_once` n simultaneous exchanges of one code (each an atomic step, any
                                     order, interleaved with anything else): at most one succeeds
* `expired_admits_none`              an exchange when `now > issue time + ttl` fails, swept or not
* `purge_kills`                      after delete-by-booking b, no code issued for b before it ever succeeds
* `code_frame_exchange/clean/submit` exchanging, expiring or issuing one code never affects another
* `codes_distinct`                   issued codes are pairwise distinct (counter model of uuid)
-/

namespace TtlCode

theorem find_eq_find? (es : List Entry) (c : Nat) : find es c = es.find? (fun e => decide (e.code = c)) := by
  induction es with
  | nil => rfl
  | cons x xs ih => by_cases h : x.code = c <;> simp [find, h, ih]

theorem keepIf_eq_filter (p : Entry → Bool) (es : List Entry) : keepIf p es = es.filter p := by
  induction es with
  | nil => rfl
  | cons x xs ih => simp only [keepIf, List.filter_cons, ih]

theorem remove_eq_keepIf (es : List Entry) (c : Nat) : remove es c = keepIf (fun e => decide (e.code ≠ c)) es := by
  induction es with
  | nil => rfl
  | cons e es ih => by_cases h : e.code = c <;> simp [remove, keepIf, h, ih]

theorem find_none_iff (es : List Entry) (c : Nat) : find es c = none ↔ ∀ e ∈ es, e.code ≠ c := by
  simp [find_eq_find?]

theorem find_some (es : List Entry) (c : Nat) (e : Entry) (h : find es c = some e) :
    e ∈ es ∧ e.code = c := by
  rw [find_eq_find?] at h
  exact ⟨List.mem_of_find?_eq_some h, by simpa using List.find?_some h⟩

theorem mem_keepIf (p : Entry → Bool) (es : List Entry) (e : Entry) :
    e ∈ keepIf p es ↔ e ∈ es ∧ p e = true := by
  rw [keepIf_eq_filter, List.mem_filter]

theorem mem_remove (es : List Entry) (c : Nat) (e : Entry) :
    e ∈ remove es c ↔ e ∈ es ∧ e.code ≠ c := by
  rw [remove_eq_keepIf, mem_keepIf, decide_eq_true_eq]

theorem find_remove_ne (es : List Entry) (c c' : Nat) (h : c ≠ c') :
    find (remove es c) c' = find es c' := by
  rw [remove_eq_keepIf, keepIf_eq_filter, find_eq_find?, find_eq_find?, List.find?_filter]
  congr 1
  funext a
  by_cases ha : a.code = c'
  · -- an entry with the code looked for does not have the code removed, so the filter keeps it
    simp [ha, Ne.symm h]
  · simp [ha]

theorem find_keepIf (p : Entry → Bool) (es : List Entry) (c : Nat) (e : Entry)
    (h : find es c = some e) (hp : p e = true) : find (keepIf p es) c = some e := by
  -- `e` is the first entry with code `c`; nothing before it can be the first kept one
  rw [find_eq_find?, List.find?_eq_some_iff_append] at h
  obtain ⟨hc, as, bs, rfl, hn⟩ := h
  rw [keepIf_eq_filter, find_eq_find?, List.find?_filter, List.find?_eq_some_iff_append]
  refine ⟨by simp [hp, hc], as, bs, rfl, fun a ha => ?_⟩
  have := hn a ha
  simp only [Bool.not_eq_true', decide_eq_false_iff_not] at this
  simp [this]

theorem find_keepIf_none (p : Entry → Bool) (es : List Entry) (k : Nat) (h : find es k = none) :
    find (keepIf p es) k = none :=
  (find_none_iff _ _).2 fun e he => (find_none_iff _ _).1 h e ((mem_keepIf _ _ _).1 he).1

theorem remove_absent (es : List Entry) (c : Nat) (h : ∀ e ∈ es, e.code ≠ c) : remove es c = es := by
  rw [remove_eq_keepIf, keepIf_eq_filter, List.filter_eq_self]
  exact fun e he => decide_eq_true (h e he)

theorem exchange_out (s : Store) (c : Nat) :
    (step s (.exchange c)).2 =
      match find s.entries c with
      | none => .invalid
      | some e => if expired s.now e then .invalid else .token e.bid e.tok := by
  cases h : find s.entries c with
  | none => simp [step, h]
  | some e => by_cases hexp : expired s.now e = true <;> simp [step, h, hexp]

theorem exchange_token_iff (st : Store) (c : Nat) (b : String) (t : Nat) :
    (step st (.exchange c)).2 = .token b t ↔
      ∃ e, find st.entries c = some e ∧ ¬ st.now > e.exp ∧ e.bid = b ∧ e.tok = t := by
  rw [exchange_out]
  cases find st.entries c with
  | none => simp
  | some e =>
    by_cases hexp : st.now > e.exp
    · simp [expired, hexp, Int.not_le.2 hexp]
    · simp [expired, hexp, Int.not_lt.1 hexp]

theorem exchange_state (s : Store) (c : Nat) :
    (step s (.exchange c)).1 =
      match find s.entries c with
      | none => s
      | some _ => { s with entries := remove s.entries c } := by
  cases h : find s.entries c with
  | none => simp [step, h]
  | some e => by_cases hexp : expired s.now e = true <;> simp [step, h, hexp]

theorem exchange_next (s : Store) (c : Nat) : (step s (.exchange c)).1.next = s.next := by
  rw [exchange_state]; split <;> rfl

theorem exchange_entries_sub (s : Store) (c : Nat) :
    ∀ e ∈ (step s (.exchange c)).1.entries, e ∈ s.entries := by
  rw [exchange_state]
  split
  · intro e he; exact he
  · intro e he; exact ((mem_remove _ _ _).1 he).1

/-- stored codes are below the counter: the next code minted collides with none of them -/
def Fresh (s : Store) : Prop := ∀ e ∈ s.entries, e.code < s.next

/-- `c` was issued and is no longer in the store -/
def Dead (s : Store) (c : Nat) : Prop := c < s.next ∧ ∀ e ∈ s.entries, e.code ≠ c

theorem next_mono_step (s : Store) (op : Op) : s.next ≤ (step s op).1.next := by
  cases op with
  | submit b t => exact Nat.le_succ _
  | exchange c => exact Nat.le_of_eq (exchange_next s c).symm
  | _ => exact Nat.le_refl _

/-- what a step can put into the store; every "old codes are left alone" fact below is read off this -/
theorem mem_step (s : Store) (op : Op) (en : Entry) (h : en ∈ (step s op).1.entries) :
    en ∈ s.entries ∨ ∃ b tok, op = .submit b tok ∧ en = { code := s.next, bid := b, tok := tok, exp := s.now + s.ttl } := by
  cases op with
  | submit b tok => exact (List.mem_cons.1 h).elim (fun h => Or.inr ⟨b, tok, rfl, h⟩) Or.inl
  | exchange c => exact Or.inl (exchange_entries_sub s c en h)
  | clean | deleteByBooking b => exact Or.inl ((mem_keepIf _ _ _).1 h).1
  | setNow t => exact Or.inl h

theorem mem_step_code (s : Store) (op : Op) (e : Entry) (he : e ∈ (step s op).1.entries) :
    e ∈ s.entries ∨ (s.next ≤ e.code ∧ e.code < (step s op).1.next) := by
  rcases mem_step s op e he with h | ⟨b, tok, rfl, rfl⟩
  · exact .inl h
  · exact .inr ⟨Nat.le_refl _, Nat.lt_succ_self _⟩

theorem nobid_step (s : Store) (op : Op) (b : String) (hop : ∀ tok, op ≠ .submit b tok)
    (h : ∀ en ∈ s.entries, en.bid ≠ b) : ∀ en ∈ (step s op).1.entries, en.bid ≠ b := by
  intro en hen
  rcases mem_step s op en hen with h' | ⟨b', tok, rfl, rfl⟩
  · exact h en h'
  · exact fun hbb => hop tok (by rw [← hbb])

/-- whatever is stored under code `c` belongs to booking `b`: kept by every step once `c` has been issued
    (`bidis_step`; used by the access tie: a purge of `b` leaves `c` dead for ever) -/
def BidIs (s : Store) (c : Nat) (b : String) : Prop := ∀ en ∈ s.entries, en.code = c → en.bid = b

theorem bidis_step (s : Store) (op : Op) (c : Nat) (b : String) (hc : c < s.next) (h : BidIs s c b) :
    BidIs (step s op).1 c b := by
  intro en hen hcode
  rcases mem_step s op en hen with h' | ⟨_, _, rfl, rfl⟩
  · exact h en h' hcode
  · exact absurd hcode (Nat.ne_of_gt hc)

theorem mem_after (s : Store) (ops : List Op) (e : Entry) (he : e ∈ (after s ops).entries) :
    e ∈ s.entries ∨ s.next ≤ e.code := by
  induction ops generalizing s with
  | nil => exact .inl he
  | cons op ops ih =>
    rcases ih (step s op).1 he with h | h
    · exact (mem_step_code s op e h).imp_right (·.1)
    · exact .inr (Nat.le_trans (next_mono_step s op) h)

theorem fresh_step (s : Store) (op : Op) (h : Fresh s) : Fresh (step s op).1 := fun e he =>
  (mem_step_code s op e he).elim (fun h' => Nat.lt_of_lt_of_le (h e h') (next_mono_step s op)) (·.2)

theorem dead_step (s : Store) (op : Op) (c : Nat) (h : Dead s c) : Dead (step s op).1 c :=
  ⟨Nat.lt_of_lt_of_le h.1 (next_mono_step s op), fun e he =>
    (mem_step_code s op e he).elim (h.2 e) (fun h' => Nat.ne_of_gt (Nat.lt_of_lt_of_le h.1 h'.1))⟩

theorem dead_exchange_invalid (s : Store) (c : Nat) (h : Dead s c) :
    (step s (.exchange c)).2 = .invalid := by
  have : find s.entries c = none := (find_none_iff _ _).2 h.2
  rw [exchange_out, this]

theorem isOkExchange_true {c : Nat} {op : Op} {o : Out} (h : isOkExchange c (op, o) = true) :
    op = .exchange c ∧ ∃ b t, o = .token b t := by
  unfold isOkExchange at h
  split at h
  next c' b t heq =>
    cases heq
    exact ⟨congrArg _ (of_decide_eq_true h), b, t, rfl⟩
  · cases h

theorem dead_no_success (c : Nat) (s : Store) (ops : List Op) (h : Dead s c) :
    successes c s ops = 0 := by
  induction ops generalizing s with
  | nil => rfl
  | cons op ops ih =>
    have hno : ¬ isOkExchange c (op, (step s op).2) = true := fun hok => by
      obtain ⟨rfl, b, t, ho⟩ := isOkExchange_true hok
      rw [dead_exchange_invalid s c h] at ho
      cases ho
    rw [successes, if_neg hno, ih _ (dead_step s op c h)]

theorem ok_exchange_dead (s : Store) (c : Nat) (hf : Fresh s) {b : String} {t : Nat}
    (hok : (step s (.exchange c)).2 = .token b t) : Dead (step s (.exchange c)).1 c := by
  rw [exchange_out] at hok
  rw [exchange_state]
  cases hfind : find s.entries c with
  | none => rw [hfind] at hok; cases hok
  | some e =>
    obtain ⟨hmem, hcode⟩ := find_some _ _ _ hfind
    have hlt : c < s.next := hcode ▸ hf e hmem
    exact ⟨hlt, fun e' he' => ((mem_remove _ _ _).1 he').2⟩

theorem successes_le_one (c : Nat) (s : Store) (ops : List Op) (hf : Fresh s) :
    successes c s ops ≤ 1 := by
  induction ops generalizing s with
  | nil => exact Nat.zero_le 1
  | cons op ops ih =>
    rw [successes]
    by_cases hok : isOkExchange c (op, (step s op).2) = true
    · -- the one success: the code is dead from here on
      obtain ⟨rfl, _, _, ho⟩ := isOkExchange_true hok
      rw [if_pos hok, dead_no_success c _ ops (ok_exchange_dead s c hf ho)]
      exact Nat.le_refl 1
    · rw [if_neg hok, Nat.zero_add]
      exact ih _ (fresh_step s op hf)

/-- **C02 (i)**: over every history, every code is exchanged successfully at most once. -/
theorem exchange_at_most_once (ttl : Int) (ops : List Op) (c : Nat) :
    successes c { ttl := ttl } ops ≤ 1 :=
  successes_le_one c _ ops (by intro e he; simp at he)

/-- **C02 (ii)**: any number of simultaneous exchanges of the same code, each one atomic step
    (store mutex, C12), in any order and interleaved with any other operations `pre`/`mid`:
    at most one is admitted. (An interleaving of atomic steps *is* a history.) -/
theorem exchange_concurrent_at_most_once (ttl : Int) (pre : List Op) (n : Nat) (c : Nat)
    (between : List (List Op)) :
    successes c { ttl := ttl } (pre ++ (between.map (fun mid => Op.exchange c :: mid)).flatten
      ++ List.replicate n (Op.exchange c)) ≤ 1 :=
  exchange_at_most_once ttl _ c

/-- **C02 (iii)** one step: an exchange when the clock is past the entry's expiry is refused,
    whether or not the sweeper has run. -/
theorem expired_step_invalid (s : Store) (c : Nat)
    (h : ∀ e, find s.entries c = some e → s.now > e.exp) :
    (step s (.exchange c)).2 = .invalid := by
  rw [exchange_out]
  cases hf : find s.entries c with
  | none => rfl
  | some e => simp [expired, h e hf]

/-- **C02 (iii)** over histories: a code issued at time `t0` (state `s`, any earlier history) admits
    nothing at any later point of any history at which the clock shows more than `t0 + ttl`. -/
theorem expired_admits_none (s : Store) (bid : String) (tok : Nat) (later : List Op)
    (hf : Fresh s)
    (hlate : (after (step s (.submit bid tok)).1 later).now > s.now + s.ttl) :
    (step (after (step s (.submit bid tok)).1 later) (.exchange s.next)).2 = .invalid := by
  apply expired_step_invalid
  intro e he
  obtain ⟨hmem, hcode⟩ := find_some _ _ _ he
  -- the entry found under the code just issued is the one just minted: later entries carry later
  -- codes, earlier ones earlier codes
  rcases mem_after _ later e hmem with h | h
  · simp only [step, List.mem_cons] at h
    rcases h with rfl | h
    · exact hlate
    · exact absurd hcode (Nat.ne_of_lt (hf e h))
  · exact absurd hcode (Nat.ne_of_gt h)

/-- **C02 (iv)**: after delete-by-booking `b`, no code issued before it for booking `b` is ever
    exchanged successfully, whatever happens later. -/
theorem purge_kills (s : Store) (b : String) (later : List Op) (c : Nat) (hc : c < s.next)
    (bid : String) (tok : Nat)
    (hok : (step (after (step s (.deleteByBooking b)).1 later) (.exchange c)).2 = .token bid tok) :
    bid ≠ b := by
  obtain ⟨e, hfind, _, rfl, _⟩ := (exchange_token_iff _ c bid tok).1 hok
  obtain ⟨hmem, hcode⟩ := find_some _ _ _ hfind
  -- a code below the purge-time counter stands for an entry that survived the purge
  rcases mem_after _ later e hmem with h | h
  · simp only [step] at h
    simpa using ((mem_keepIf _ _ _).1 h).2
  · exact absurd (hcode ▸ hc) (Nat.not_lt.2 h)

/-- **C02 (v)** frame: exchanging one code does not change what the store holds for another. -/
theorem code_frame_exchange (s : Store) (c c' : Nat) (h : c ≠ c') :
    find (step s (.exchange c)).1.entries c' = find s.entries c' := by
  have hrem := find_remove_ne s.entries c c' h
  rw [exchange_state]
  split
  · rfl
  · exact hrem

/-- frame: the sweeper removes a code only if that code's own entry has expired. -/
theorem code_frame_clean (s : Store) (c' : Nat) (e : Entry) (h : find s.entries c' = some e)
    (hlive : ¬ s.now > e.exp) :
    find (step s .clean).1.entries c' = some e := by
  simp only [step]
  exact find_keepIf _ _ _ _ h (by simp [expired, hlive])

/-- frame: issuing a code leaves every existing code as it was. -/
theorem code_frame_submit (s : Store) (bid : String) (tok : Nat) (c' : Nat) (hc : c' < s.next) :
    find (step s (.submit bid tok)).1.entries c' = find s.entries c' := by
  have : ¬ s.next = c' := by omega
  simp [step, find, this]

theorem exchange_not_issued (s : Store) (c k : Nat) : (step s (.exchange c)).2 ≠ .issued k := by
  rw [exchange_out]
  split
  · simp
  · split <;> simp

theorem issuedCodes_range (s : Store) (ops : List Op) : ∃ n, issuedCodes s ops = List.range' s.next n := by
  induction ops generalizing s with
  | nil => exact ⟨0, rfl⟩
  | cons op ops ih =>
    obtain ⟨n, h⟩ := ih (step s op).1
    have quiet (ho : ∀ k, (step s op).2 ≠ .issued k) (hn : (step s op).1.next = s.next) :
        ∃ n, issuedCodes s (op :: ops) = List.range' s.next n := by
      refine ⟨n, ?_⟩
      rw [← hn, ← h]
      simp only [issuedCodes]
    cases op with
    | submit b t => exact ⟨n + 1, by rw [List.range'_succ]; exact congrArg (s.next :: ·) h⟩
    | exchange c => exact quiet (exchange_not_issued s c) (exchange_next s c)
    | clean | deleteByBooking b | setNow t => exact quiet (fun _ h => nomatch h) rfl

/-- **C02 (vi)**: the codes issued in any history are pairwise distinct (strictly increasing). -/
theorem codes_distinct (s : Store) (ops : List Op) : (issuedCodes s ops).Pairwise (· < ·) := by
  obtain ⟨n, h⟩ := issuedCodes_range s ops
  rw [h]
  exact List.pairwise_lt_range'

/-! non-vacuity: a history where a code is issued, exchanged once (ok) and a second time (refused),
    another expires unswept, a third dies with its booking -/
example :
    let ops := [Op.setNow 100, .submit "b1" 1, .submit "b2" 2, .submit "b1" 3, .exchange 0, .exchange 0,
                .setNow 131, .exchange 1, .setNow 105, .deleteByBooking "b1", .exchange 2]
    (run { ttl := 30 } ops).2 = [.done, .issued 0, .issued 1, .issued 2, .token "b1" 1, .invalid,
                                 .done, .invalid, .done, .done, .invalid] := by
  decide

end TtlCode
