import Relay.Model.Reconws

/-!
# C19 — the reconnecting client comes back, backs off after failures, stops when told

The theorems quantify over every behaviour script (`List Behaviour` for `ReconnectAuth`,
`List WsB` for `Reconnect`), every loop state, every back-off configuration and every
cancellation point `(iteration, phase)`; the refutations are concrete runs.

* `waits_follow_backoff` (`_auth`, `_auth_start`, `_plain`, `backoff_shape`)
      the sleeps are exactly the specification's: none at the start or after a success,
      `forAttempt c (s-1)` after `s` consecutive failures; `forAttempt c 0 = min`, non-decreasing,
      within [min, max], `= min max (min·factor^k)`
* `reset_after_success` (`_auth`, `_auth_trace`, `_plain`)
      after an attempt whose `Dial` returned nil the loop is in its initial state
* `always_retries_while_live` (`_auth`, `_plain`, `every_behaviour_attempted_*`, `attempts_before_cancel_*`)
      without cancellation no behaviour makes the loop return, every scripted behaviour gets its
      attempt, and the attempts before the cancellation iteration all happen
* `quiescent_after_cancel` (`_auth`, `_plain`)
      no POST and no dial after the cancellation instant
* `closes_on_cancel_connected`  cancelled while connected: Close frame, socket closed, return
* `fifo_while_connected` (`fifo_no_forward`)
      both message loops preserve order for every interleaving
* `status_ignored`  the HTTP status of the access response has no influence
* deviations of today's code, full statements kept as `def … : Prop` and refuted:
  `returns_promptly` (`not_returns_promptly`, `_plain`; what holds: `returns_promptly_partial`),
  `all_sockets_closed` (`not_all_sockets_closed`, `abandoned_socket_trace`; what holds:
  `all_sockets_closed_partial`, `closes_on_cancel_connected`)
* `post_after_cancel_without_recheck` shows what commit d54b2b4 repaired: the statement of
  `quiescent_after_cancel_auth` fails for the loop without the check after the sleep.
-/

namespace Reconws

theorem effFactor_pos (c : Cfg) : 0 < effFactor c := by
  unfold effFactor; split <;> omega

theorem effMin_pos (c : Cfg) : 0 < effMin c := by
  unfold effMin; split <;> omega

theorem forAttempt_eq (c : Cfg) (k : Nat) :
    forAttempt c k =
      if effMax c ≤ effMin c then effMax c else min (effMax c) (effMin c * effFactor c ^ k) := by
  -- the library's lower clamp never fires: `min ≤ min·factor^k`
  have := Nat.le_mul_of_pos_right (effMin c) (Nat.pow_pos (effFactor_pos c) (n := k))
  unfold forAttempt
  split
  · rfl
  · simp only []; split
    · omega
    · split <;> omega

theorem forAttempt_le_max (c : Cfg) (k : Nat) : forAttempt c k ≤ effMax c := by
  rw [forAttempt_eq]; split <;> omega

theorem forAttempt_mono (c : Cfg) {j k : Nat} (h : j ≤ k) : forAttempt c j ≤ forAttempt c k := by
  have := Nat.mul_le_mul_left (effMin c) (Nat.pow_le_pow_right (effFactor_pos c) h)
  rw [forAttempt_eq, forAttempt_eq]; split <;> omega

theorem forAttempt_zero (c : Cfg) (h : effMin c < effMax c) : forAttempt c 0 = effMin c := by
  rw [forAttempt_eq, Nat.pow_zero, Nat.mul_one]; split <;> omega

theorem forAttempt_ge_min (c : Cfg) (k : Nat) (h : effMin c < effMax c) : effMin c ≤ forAttempt c k := by
  have := forAttempt_mono c (Nat.zero_le k)
  rw [forAttempt_zero c h] at this; exact this

/-- **shape of the waits** (for the configured values, zero fields replaced by the library
    defaults): start at min, never decrease, never exceed max, never below min, and are
    `min·factor^k` cut off at max. -/
theorem backoff_shape (c : Cfg) (h : effMin c < effMax c) :
    forAttempt c 0 = effMin c ∧
    (∀ j k, j ≤ k → forAttempt c j ≤ forAttempt c k) ∧
    (∀ k, effMin c ≤ forAttempt c k ∧ forAttempt c k ≤ effMax c) ∧
    (∀ k, forAttempt c k = min (effMax c) (effMin c * effFactor c ^ k)) := by
  refine ⟨forAttempt_zero c h, fun j k hjk => forAttempt_mono c hjk,
    fun k => ⟨forAttempt_ge_min c k h, forAttempt_le_max c k⟩, fun k => ?_⟩
  rw [forAttempt_eq, if_neg (by omega)]

/-- the harness configurations, and the defaults of `reconws.New()` -/
example : (List.range 6).map (forAttempt ⟨20, 160, 2⟩) = [20, 40, 80, 160, 160, 160] := by decide
example : (List.range 5).map (forAttempt ⟨20, 160, 3⟩) = [20, 60, 160, 160, 160] := by decide
example : (List.range 5).map (forAttempt ⟨1000, 10000, 2⟩) = [1000, 2000, 4000, 8000, 10000] := by decide

theorem waitsOf_append (a b : List Event) : waitsOf (a ++ b) = waitsOf a ++ waitsOf b := by
  fun_induction waitsOf a <;> simp_all [waitsOf]

theorem countPosts_append (a b : List Event) : countPosts (a ++ b) = countPosts a + countPosts b := by
  fun_induction countPosts a <;> simp_all [countPosts, Nat.add_right_comm]

theorem countDials_append (a b : List Event) : countDials (a ++ b) = countDials a + countDials b := by
  fun_induction countDials a <;> simp_all [countDials, Nat.add_right_comm]

theorem nac_append (P : Event → Bool) (seen : Bool) (a b : List Event) :
    noneAfterCancel P seen (a ++ b) =
      (noneAfterCancel P seen a && noneAfterCancel P (seen || a.contains .cancel) b) := by
  induction a generalizing seen with
  | nil => simp [noneAfterCancel]
  | cons e es ih =>
    simp only [List.cons_append, noneAfterCancel, ih, List.contains_cons, Bool.and_assoc, Bool.or_assoc,
      Bool.beq_comm (a := Event.cancel)]

theorem nac_of_no_cancel (P : Event → Bool) (a : List Event) (h : a.contains .cancel = false) :
    noneAfterCancel P false a = true := by
  induction a with
  | nil => rfl
  | cons e es ih =>
    rw [List.contains_cons, Bool.or_eq_false_iff, Bool.beq_comm] at h
    simp [noneAfterCancel, h.1, ih h.2]

theorem nac_mark (P : Event → Bool) (hc : P .cancel = false) (seen : Bool) (ph : Option Phase)
    (evs : List Event) : noneAfterCancel P seen (mark ph evs) = noneAfterCancel P seen evs := by
  cases ph with
  | none => rfl
  | some p =>
    simp only [mark]; split
    · rfl
    · simp [nac_append, noneAfterCancel, hc]

theorem any_mark (Q : Event → Bool) (hc : Q .cancel = false) (ph : Option Phase) (evs : List Event) :
    (mark ph evs).any Q = evs.any Q := by
  cases ph with
  | none => rfl
  | some p =>
    simp only [mark]; split
    · rfl
    · simp [hc]

theorem nac_of_any_false (P : Event → Bool) (seen : Bool) (a : List Event) (h : a.any P = false) :
    noneAfterCancel P seen a = true := by
  fun_induction noneAfterCancel P seen a <;> simp_all

/-! ### one attempt

Both loops do their own bookkeeping (`sleep`, the access request, the `cancel` marker), make one
attempt (`attempt`; `Reconnect` makes that of a good access response) and end the iteration the
same way (`close`).  `authIter_tab` and `plainIter_tab` say which bookkeeping goes with which
cancellation phase.  What holds of an iteration for every cancellation phase (`_quiet`, `_any`) is
read off `attempt` and `close`; the uncancelled iteration is evaluated, kind of behaviour by kind. -/

def isAbandoned : Event → Bool
  | .abandoned _ _ => true
  | _ => false

/-- what follows the access request in one attempt of `ReconnectAuth`: its failure, or the `Dial` -/
def attempt (b : Behaviour) (dead : Bool) (ph : Option Phase) : DialRes :=
  match b with
  | .accessHang => ⟨[.blocked 10000], .err⟩
  | .okUri _ ws => dialWs ws dead ph
  | _ => ⟨[], .err⟩

/-- the end of an iteration of either loop: `boff.Reset()` after nil, `tl` and `st'` after an error -/
def close (ph : Option Phase) (pre : List Event) (d : DialRes) (tl : List Event) (st' : St) : Iter :=
  match d.out with
  | .ok => ⟨mark ph (pre ++ d.evs ++ [.reset]), .cont ⟨0, false⟩⟩
  | .err => ⟨mark ph (pre ++ d.evs ++ tl), .cont st'⟩
  | .never => ⟨pre ++ d.evs, .forever⟩

/-- the streak of consecutive failures the loop state stands for -/
def streak (st : St) : Nat := if st.wbd then st.attempt + 1 else 0

/-- loop states the code can be in: `waitBeforeDial == false` only right after a `Reset()` -/
def St.Ok (st : St) : Prop := st.wbd = false → st.attempt = 0

/-- `ReconnectAuth`'s `if waitBeforeDial { time.Sleep(boff.Duration()) }` -/
def sleep (c : Cfg) (st : St) : List Event := if st.wbd then [.wait (forAttempt c st.attempt)] else []

/-- the loop state of `ReconnectAuth` after a failed attempt (`waitBeforeDial = true`) -/
def failed (st : St) : St := ⟨if st.wbd then st.attempt + 1 else st.attempt, true⟩

section
variable {ph : Option Phase} {pre : List Event} {d : DialRes} {tl : List Event} {st' : St}

theorem close_any (Q : Event → Bool) (hc : Q .cancel = false) (hr : Q .reset = false)
    (hpre : pre.any Q = false) (hd : d.evs.any Q = false) (ht : tl.any Q = false) :
    (close ph pre d tl st').evs.any Q = false := by
  unfold close; split <;> simp [any_mark, hc, hr, hpre, hd, ht]

/-- `pre.contains .cancel` is what every row of the two tables passes to the attempt as `dead` -/
theorem close_nac (P : Event → Bool) (hc : P .cancel = false) (hr : P .reset = false)
    (hpre : noneAfterCancel P false pre = true)
    (hd : noneAfterCancel P (pre.contains .cancel) d.evs = true) (ht : tl.any P = false) :
    noneAfterCancel P false (close ph pre d tl st').evs = true := by
  have hpd : noneAfterCancel P false (pre ++ d.evs) = true := by
    rw [nac_append, hpre, Bool.false_or, hd]; rfl
  unfold close; split
  · rw [nac_mark P hc, nac_append, hpd]; simp [noneAfterCancel, hr]
  · rw [nac_mark P hc, nac_append, hpd, nac_of_any_false P _ tl ht]; rfl
  · exact hpd

end

/-- for `cases w using WsB.kinds`: the seven shapes the trace of a dial can have, on each of which
    `dialWs` computes to a list of events (the peer's Close frame is an `if` in the trace, hence two
    kinds of `drop`) -/
theorem WsB.kinds {motive : WsB → Prop} (refuse : motive .refuse) (reject : ∀ s, motive (.reject s))
    (hang : motive .hang) (drop : ∀ k, motive (.serve k (.drop false)))
    (dropPolite : ∀ k, motive (.serve k (.drop true))) (writeErr : ∀ k, motive (.serve k .writeErr))
    (stay : ∀ k, motive (.serve k .stay)) (w : WsB) : motive w := by
  cases w with
  | refuse => exact refuse
  | reject s => exact reject s
  | hang => exact hang
  | serve k fin =>
    cases fin with
    | drop polite =>
      cases polite
      · exact drop k
      · exact dropPolite k
    | writeErr => exact writeErr k
    | stay => exact stay k

/-- for `cases b using Behaviour.kinds`: the five failures before the dial, then the kinds of dial -/
theorem Behaviour.kinds {motive : Behaviour → Prop} (reqFail : motive .reqFail)
    (accessHang : motive .accessHang) (bodyErr : ∀ s, motive (.bodyErr s))
    (badJson : ∀ s, motive (.badJson s)) (badUri : ∀ s u, motive (.badUri s u))
    (refuse : ∀ s, motive (.okUri s .refuse)) (reject : ∀ s t, motive (.okUri s (.reject t)))
    (hang : ∀ s, motive (.okUri s .hang)) (drop : ∀ s k, motive (.okUri s (.serve k (.drop false))))
    (dropPolite : ∀ s k, motive (.okUri s (.serve k (.drop true))))
    (writeErr : ∀ s k, motive (.okUri s (.serve k .writeErr)))
    (stay : ∀ s k, motive (.okUri s (.serve k .stay))) (b : Behaviour) : motive b := by
  cases b with
  | reqFail => exact reqFail
  | accessHang => exact accessHang
  | bodyErr s => exact bodyErr s
  | badJson s => exact badJson s
  | badUri s u => exact badUri s u
  | okUri s w =>
    exact WsB.kinds (motive := fun w => motive (.okUri s w)) (refuse s) (reject s) (hang s) (drop s)
      (dropPolite s) (writeErr s) (stay s) w

section
variable (r : Bool) (c : Cfg) (st : St) (b : Behaviour) (w : WsB) (dead : Bool) (ph : Option Phase)

/-- the dial reaches the endpoint before the marker if it is made at all: `seen = dead` -/
theorem attempt_quiet : quietB dead (attempt b dead ph).evs = true := by
  cases dead
  · -- the phase is split as well (none, or one of the five): `dialWs` compares it with `some .handshake`
    cases b using Behaviour.kinds <;> rcases ph with _ | (_ | _ | _ | _ | _) <;> rfl
  · cases b <;> rfl

/-- only a behaviour that `hangs` blocks; as an equation between Booleans every case is an evaluation -/
theorem attempt_blocked_hangs : ((attempt b dead ph).evs.any isBlocked && !hangs b) = false := by
  cases dead
  · cases b using Behaviour.kinds <;> rcases ph with _ | (_ | _ | _ | _ | _) <;> rfl
  · cases b <;> rfl

theorem attempt_blocked (hb : hangs b = false) : (attempt b dead ph).evs.any isBlocked = false := by
  simpa [hb] using attempt_blocked_hangs b dead ph

/-- only an attempt whose `Dial` returns nil leaves its socket open -/
theorem attempt_abandoned_succeeds : ((attempt b dead ph).evs.any isAbandoned && !succeeds b) = false := by
  cases dead
  · cases b using Behaviour.kinds <;> rcases ph with _ | (_ | _ | _ | _ | _) <;> rfl
  · cases b <;> rfl

theorem attempt_abandoned (hb : succeeds b = false) : (attempt b dead ph).evs.any isAbandoned = false := by
  simpa [hb] using attempt_abandoned_succeeds b dead ph

theorem authIter_tab :
    authIter r c st b ph =
      match ph, st.wbd, r with
      | some .top, _, _ => ⟨[.cancel, .returned], .returned⟩
      | some .wait, true, true => ⟨sleep c st ++ [.cancel, .returned], .returned⟩
      | some .wait, true, false => close ph (sleep c st ++ [.cancel, .post]) (attempt b true ph) [] (failed st)
      | some .wait, false, _ => close ph [.post, .cancel] (attempt b true ph) [] (failed st)
      | some .post, _, _ => close ph (sleep c st ++ [.post, .cancel]) (attempt b true ph) [] (failed st)
      | _, _, _ => close ph (sleep c st ++ [.post]) (attempt b false ph) [] (failed st) := by
  -- first `match b` becomes `close … (attempt b …)` for symbolic phase and state (6 cases), then
  -- the phase and the flags are decided (24 cases, by evaluation); 144 cases at once cost ten times more
  have h : authIter r c st b ph =
      if ph = some .top then ⟨[.cancel, .returned], .returned⟩
      else
        let slept := st.wbd && ph == some .wait
        let inFlight := ph == some .post || (!st.wbd && ph == some .wait)
        if slept && r then ⟨sleep c st ++ [.cancel, .returned], .returned⟩
        else close ph
          (sleep c st ++ (if slept then [.cancel] else []) ++ [.post] ++ (if inFlight then [.cancel] else []))
          (attempt b (slept || inFlight) ph) [] (failed st) := by
    cases b <;> simp only [authIter, close, attempt, sleep, failed, List.append_nil] <;> rfl
  obtain ⟨a, wbd⟩ := st
  rw [h]
  rcases ph with _ | (_ | _ | _ | _ | _) <;> cases wbd <;> cases r <;> rfl

/-! The uncancelled iteration, by evaluation on each kind of behaviour and both values of `wbd`. -/

theorem authIter_none_next :
    (authIter r c st b none).next =
      if stays b then .forever else .cont (if succeeds b then ⟨0, false⟩ else failed st) := by
  rw [authIter_tab]
  cases b using Behaviour.kinds <;> rfl

theorem authIter_none_waits :
    waitsOf (authIter r c st b none).evs =
      if streak st = 0 then [] else [forAttempt c (streak st - 1)] := by
  obtain ⟨a, wbd⟩ := st
  rw [authIter_tab]
  cases b using Behaviour.kinds <;> cases wbd <;> rfl

theorem authIter_none_posts : countPosts (authIter r c st b none).evs = 1 := by
  obtain ⟨a, wbd⟩ := st
  rw [authIter_tab]
  cases b using Behaviour.kinds <;> cases wbd <;> rfl

theorem authIter_none_no_cancel : (authIter r c st b none).evs.contains .cancel = false := by
  obtain ⟨a, wbd⟩ := st
  rw [authIter_tab]
  cases b using Behaviour.kinds <;> cases wbd <;> rfl

/-- the iteration the cancellation falls in (today's code): nothing that looks like an attempt
    after the marker -/
theorem authIter_quiet (p : Phase) : quietB false (authIter true c st b (some p)).evs = true := by
  obtain ⟨a, wbd⟩ := st
  rw [authIter_tab]
  cases p with
  | top => rfl
  | wait =>
    cases wbd
    · exact close_nac isAttempt (hc := rfl) (hr := rfl) (hpre := rfl) (hd := attempt_quiet b true _) (ht := rfl)
    · rfl
  | _ =>
    cases wbd <;>
      exact close_nac isAttempt (hc := rfl) (hr := rfl) (hpre := rfl) (hd := attempt_quiet b _ _) (ht := rfl)

theorem authIter_any (Q : Event → Bool) (hc : Q .cancel = false) (hret : Q .returned = false)
    (hr : Q .reset = false) (hp : Q .post = false) (hw : ∀ d, Q (.wait d) = false)
    (h : ∀ dead, (attempt b dead ph).evs.any Q = false) :
    (authIter r c st b ph).evs.any Q = false := by
  have hs : (sleep c st).any Q = false := by unfold sleep; split <;> simp [hw]
  rw [authIter_tab]
  split
  · simp [hc, hret]
  · simp [hs, hc, hret]
  all_goals exact close_any Q hc hr (by simp [hs, hc, hp]) (h _) rfl

/-- `Reconnect` makes the attempt of `ReconnectAuth` after a good access response -/
theorem plainIter_tab :
    plainIter c st w ph =
      match ph with
      | some .top => ⟨[.cancel, .returned], .returned⟩
      | some .post => close ph [.cancel] (attempt (.okUri 0 w) true ph) [.wait (forAttempt c st.attempt)]
          ⟨st.attempt + 1, false⟩
      | _ => close ph [] (attempt (.okUri 0 w) false ph) [.wait (forAttempt c st.attempt)]
          ⟨st.attempt + 1, false⟩ := by
  rcases ph with _ | (_ | _ | _ | _ | _) <;> rfl

theorem plainIter_none_next :
    (plainIter c st w none).next =
      if wsStays w then .forever
      else .cont (if wsOk w then ⟨0, false⟩ else ⟨st.attempt + 1, false⟩) := by
  cases w using WsB.kinds <;> rfl

theorem plainIter_none_waits :
    waitsOf (plainIter c st w none).evs =
      if wsStays w then [] else if wsOk w then [] else [forAttempt c st.attempt] := by
  cases w using WsB.kinds <;> rfl

theorem plainIter_none_dials : countDials (plainIter c st w none).evs = 1 := by
  cases w using WsB.kinds <;> rfl

theorem plainIter_none_no_cancel : (plainIter c st w none).evs.contains .cancel = false := by
  cases w using WsB.kinds <;> rfl

theorem plainIter_quiet (p : Phase) : quietB false (plainIter c st w (some p)).evs = true := by
  rw [plainIter_tab]
  cases p with
  | top => rfl
  | _ => exact close_nac isAttempt (hc := rfl) (hr := rfl) (hpre := rfl) (hd := attempt_quiet _ _ _) (ht := rfl)

end

/-- the `for` loop of `Reconnect` and of `ReconnectAuth`, over the iteration function -/
def loopRun {β : Type} (iter : St → β → Option Phase → Iter) : List β → St → CancelAt → Run
  | [], st, _ => ⟨[], .live st⟩
  | b :: bs, st, cn =>
    let it := iter st b (here cn)
    match it.next with
    | .returned => ⟨it.evs, .returned⟩
    | .forever => ⟨it.evs, .forever⟩
    | .cont st' =>
      if (here cn).isSome then ⟨it.evs ++ [.returned], .returned⟩
      else
        let r := loopRun iter bs st' (later cn)
        ⟨it.evs ++ r.evs, r.fin⟩

theorem authRun_eq_loop (r : Bool) (c : Cfg) (script : List Behaviour) (st : St) (cn : CancelAt) :
    authRun r c script st cn = loopRun (authIter r c) script st cn := by
  induction script generalizing st cn with
  | nil => rfl
  | cons b bs ih => simp only [authRun, loopRun, ih]; rfl

theorem plainRun_eq_loop (c : Cfg) (script : List WsB) (st : St) (cn : CancelAt) :
    plainRun c script st cn = loopRun (plainIter c) script st cn := by
  induction script generalizing st cn with
  | nil => rfl
  | cons b bs ih => simp only [plainRun, loopRun, ih]; rfl

section
variable {β : Type} {iter : St → β → Option Phase → Iter}

theorem loopRun_any (Q : Event → Bool) (hQ : Q .returned = false) (script : List β) (st : St)
    (cn : CancelAt) (h : ∀ b ∈ script, ∀ st ph, (iter st b ph).evs.any Q = false) :
    (loopRun iter script st cn).evs.any Q = false := by
  induction script generalizing st cn with
  | nil => rfl
  | cons b bs ih =>
    have hb := h b (List.mem_cons_self ..) st (here cn)
    have ih' := fun st cn => ih st cn (fun x hx => h x (List.mem_cons_of_mem _ hx))
    simp only [loopRun]
    split
    · exact hb
    · exact hb
    · split
      · rw [List.any_append, hb]; simp [hQ]
      · rw [List.any_append, hb, ih']; rfl

theorem loopRun_nac (P : Event → Bool) (hP : P .returned = false) (script : List β) (st : St)
    (cn : CancelAt) (h0 : ∀ st b, (iter st b none).evs.contains .cancel = false)
    (h : ∀ st b p, noneAfterCancel P false (iter st b (some p)).evs = true) :
    noneAfterCancel P false (loopRun iter script st cn).evs = true := by
  induction script generalizing st cn with
  | nil => rfl
  | cons b bs ih =>
    simp only [loopRun]
    cases hh : here cn with
    | none =>
      -- an iteration before the cancellation carries no marker: `seen` stays false
      have hnc := h0 st b
      have hq := nac_of_no_cancel P _ hnc
      split
      · exact hq
      · exact hq
      · rw [if_neg (by simp), nac_append, hq, hnc]; exact ih _ _
    | some p =>
      -- the run ends with the iteration the cancellation falls in, plus the return
      have hq := h st b p
      split
      · exact hq
      · exact hq
      · rw [if_pos (by rfl), nac_append, hq]; simp [noneAfterCancel, hP]

theorem loopRun_append (s₁ s₂ : List β) (st : St) :
    loopRun iter (s₁ ++ s₂) st none =
      match (loopRun iter s₁ st none).fin with
      | .live st' => ⟨(loopRun iter s₁ st none).evs ++ (loopRun iter s₂ st' none).evs,
                      (loopRun iter s₂ st' none).fin⟩
      | f => ⟨(loopRun iter s₁ st none).evs, f⟩ := by
  induction s₁ generalizing st with
  | nil => rfl
  | cons b bs ih =>
    simp only [List.cons_append, loopRun, here, later, ih]
    cases (iter st b none).next with
    | cont st' => cases h : (loopRun iter bs st' none).fin <;> simp [h]
    | _ => rfl

/-! Without cancellation an iteration either stays for good or hands a state to the next one. -/

variable {stay : β → Bool} {step : St → β → St}
  (hn : ∀ st b, (iter st b none).next = if stay b then .forever else .cont (step st b))
include hn

theorem loopRun_cons_none (b : β) (bs : List β) (st : St) (cn : CancelAt) (h : here cn = none) :
    loopRun iter (b :: bs) st cn =
      if stay b then ⟨(iter st b none).evs, .forever⟩
      else ⟨(iter st b none).evs ++ (loopRun iter bs (step st b) (later cn)).evs,
            (loopRun iter bs (step st b) (later cn)).fin⟩ := by
  simp only [loopRun, h, hn]
  cases stay b <;> rfl

theorem loopRun_fin (script : List β) (st : St) :
    (loopRun iter script st none).fin =
      if script.any stay then .forever else .live (script.foldl step st) := by
  induction script generalizing st with
  | nil => rfl
  | cons b bs ih =>
    rw [loopRun_cons_none hn b bs st none rfl, List.any_cons, List.foldl_cons]
    cases stay b
    · exact ih _
    · rfl

theorem loopRun_count (cnt : List Event → Nat) (hadd : ∀ a b, cnt (a ++ b) = cnt a + cnt b)
    (h1 : ∀ st b, cnt (iter st b none).evs = 1)
    (script : List β) (hns : ∀ b ∈ script, stay b = false) (st : St) :
    cnt (loopRun iter script st none).evs = script.length ∧
    ∀ n p, min n script.length ≤ cnt (loopRun iter script st (some (n, p))).evs := by
  induction script generalizing st with
  | nil =>
    -- an additive count is 0 on the empty trace
    have := hadd [] []
    exact ⟨by simp [loopRun] at this ⊢; omega, by simp⟩
  | cons b bs ih =>
    have hb := hns b (List.mem_cons_self ..)
    have ih' := ih (fun x hx => hns x (List.mem_cons_of_mem _ hx)) (step st b)
    refine ⟨?_, fun n p => ?_⟩
    · rw [loopRun_cons_none hn b bs st none rfl, hb, if_neg (by simp), hadd, h1, List.length_cons]
      have := ih'.1
      simp only [later]; omega
    · cases n with
      | zero => simp
      | succ n =>
        rw [loopRun_cons_none hn b bs st _ rfl, hb, if_neg (by simp), hadd, h1, List.length_cons]
        have := ih'.2 n p
        simp only [later]; omega

end

/-- **C19 quiescence, `ReconnectAuth`** — for every script, state and cancellation point: after
    the instant of cancellation no access request and no websocket dial is started. -/
theorem quiescent_after_cancel_auth (c : Cfg) (script : List Behaviour) (st : St) (cn : CancelAt) :
    quietB false (authRun true c script st cn).evs = true := by
  rw [authRun_eq_loop]
  exact loopRun_nac isAttempt rfl script st cn (authIter_none_no_cancel true c) (authIter_quiet c)

/-- **C19 waits, `ReconnectAuth`** — for every script and every reachable loop state the
    sequence of sleeps of the uncancelled loop is exactly the specification's. -/
theorem waits_follow_backoff_auth (c : Cfg) (script : List Behaviour) (st : St) (hst : st.Ok) :
    waitsOf (authRun true c script st none).evs = specWaitsAuth c script (streak st) := by
  rw [authRun_eq_loop]
  induction script generalizing st with
  | nil => rfl
  | cons b bs ih =>
    -- a failure lengthens the streak by one: `St.Ok` is what makes the first failure count
    have hf : streak (failed st) = streak st + 1 := by
      obtain ⟨a, wbd⟩ := st
      cases wbd
      · cases hst rfl; rfl
      · rfl
    rw [loopRun_cons_none (authIter_none_next true c) b bs _ none rfl, specWaitsAuth,
      ← authIter_none_waits true c st b]
    cases stays b
    · cases hk : succeeds b
      · simp only [Bool.false_eq_true, if_false, waitsOf_append, later]
        rw [ih _ (fun h => by cases h), hf]
      · simp only [Bool.false_eq_true, if_false, if_true, waitsOf_append, later]
        rw [ih _ (fun _ => rfl)]; rfl
    · simp

/-- from the start: no wait before the first attempt, then `forAttempt c 0, 1, 2, …` while failing -/
theorem waits_follow_backoff_auth_start (c : Cfg) (script : List Behaviour) :
    waitsOf (reconnectAuth c script none).evs = specWaitsAuth c script 0 :=
  waits_follow_backoff_auth c script {} (fun _ => rfl)

/-- **C19 liveness, `ReconnectAuth`** — no behaviour of the servers makes the uncancelled loop
    return. -/
theorem always_retries_while_live_auth (r : Bool) (c : Cfg) (script : List Behaviour) (st : St) :
    (authRun r c script st none).fin ≠ .returned := by
  rw [authRun_eq_loop, loopRun_fin (authIter_none_next r c)]
  split <;> nofun

/-- … and every scripted behaviour gets its attempt (unless one keeps the connection for good):
    one access request per script element, and the loop is still running at the end. -/
theorem every_behaviour_attempted_auth (r : Bool) (c : Cfg) (script : List Behaviour) (st : St)
    (hns : ∀ b ∈ script, stays b = false) :
    countPosts (authRun r c script st none).evs = script.length ∧
    ∃ st', (authRun r c script st none).fin = .live st' := by
  rw [authRun_eq_loop, loopRun_fin (authIter_none_next r c), if_neg (by simpa using hns)]
  exact ⟨(loopRun_count (authIter_none_next r c) countPosts countPosts_append
    (authIter_none_posts r c) script hns st).1, _, rfl⟩

/-- the attempts before the iteration the cancellation falls in all happen -/
theorem attempts_before_cancel_auth (r : Bool) (c : Cfg) (script : List Behaviour) (st : St)
    (n : Nat) (p : Phase) (hns : ∀ b ∈ script, stays b = false) :
    min n script.length ≤ countPosts (authRun r c script st (some (n, p))).evs := by
  rw [authRun_eq_loop]
  exact (loopRun_count (authIter_none_next r c) countPosts countPosts_append
    (authIter_none_posts r c) script hns st).2 n p

/-- **C19 reset, `ReconnectAuth`** — whenever the attempt just made succeeded (`Dial` returned
    nil) the loop is back in its initial state: no wait before the next attempt, and the next
    failure waits `forAttempt c 0` again. -/
theorem reset_after_success_auth (r : Bool) (c : Cfg) (s₁ : List Behaviour) (b : Behaviour) (st st' : St)
    (hb : succeeds b = true) (hl : (authRun r c (s₁ ++ [b]) st none).fin = .live st') :
    st' = {} := by
  rw [authRun_eq_loop, loopRun_fin (authIter_none_next r c), List.foldl_append] at hl
  split at hl
  · cases hl
  · simpa [hb] using hl.symm

/-- corollary in terms of the trace: a run through a success continues exactly like a fresh run -/
theorem reset_after_success_auth_trace (r : Bool) (c : Cfg) (s₁ s₂ : List Behaviour) (b : Behaviour) (st st' : St)
    (hb : succeeds b = true) (hl : (authRun r c (s₁ ++ [b]) st none).fin = .live st') :
    (authRun r c (s₁ ++ b :: s₂) st none).evs =
      (authRun r c (s₁ ++ [b]) st none).evs ++ (authRun r c s₂ {} none).evs := by
  cases reset_after_success_auth r c s₁ b st st' hb hl
  simp only [authRun_eq_loop] at hl ⊢
  rw [List.append_cons, loopRun_append, hl]

/-- what commit d54b2b4 repaired: without the check after the sleep the statement of
    `quiescent_after_cancel_auth` fails — cancelled during the back-off sleep, the old loop
    POSTs once more. -/
theorem post_after_cancel_without_recheck :
    quietB false (authRun false ⟨20, 160, 2⟩ [.reqFail, .reqFail] {} (some (1, .wait))).evs = false ∧
    (authRun false ⟨20, 160, 2⟩ [.reqFail, .reqFail] {} (some (1, .wait))).evs =
      [.post, .wait 20, .cancel, .post, .returned] := by
  decide

/-- **C19 quiescence, `Reconnect`** — as written, the loop never dials after the cancellation. -/
theorem quiescent_after_cancel_plain (c : Cfg) (script : List WsB) (st : St) (cn : CancelAt) :
    quietB false (plainRun c script st cn).evs = true := by
  rw [plainRun_eq_loop]
  exact loopRun_nac isAttempt rfl script st cn (plainIter_none_no_cancel c) (plainIter_quiet c)

/-- **C19 waits, `Reconnect`** — the sleep after the (s+1)-th consecutive failed dial is
    `forAttempt c s`; no sleep after a dial that connected. -/
theorem waits_follow_backoff_plain (c : Cfg) (script : List WsB) (st : St) :
    waitsOf (plainRun c script st none).evs = specWaitsPlain c script st.attempt := by
  rw [plainRun_eq_loop]
  induction script generalizing st with
  | nil => rfl
  | cons w ws ih =>
    rw [loopRun_cons_none (plainIter_none_next c) w ws st none rfl, specWaitsPlain]
    cases hs : wsStays w <;> cases hk : wsOk w <;>
      simp [waitsOf_append, plainIter_none_waits, hs, hk, later, ih]

theorem always_retries_while_live_plain (c : Cfg) (script : List WsB) (st : St) :
    (plainRun c script st none).fin ≠ .returned := by
  rw [plainRun_eq_loop, loopRun_fin (plainIter_none_next c)]
  split <;> nofun

theorem every_behaviour_attempted_plain (c : Cfg) (script : List WsB) (st : St)
    (hns : ∀ w ∈ script, wsStays w = false) :
    countDials (plainRun c script st none).evs = script.length ∧
    ∃ st', (plainRun c script st none).fin = .live st' := by
  rw [plainRun_eq_loop, loopRun_fin (plainIter_none_next c), if_neg (by simpa using hns)]
  exact ⟨(loopRun_count (plainIter_none_next c) countDials countDials_append
    (plainIter_none_dials c) script hns st).1, _, rfl⟩

theorem attempts_before_cancel_plain (c : Cfg) (script : List WsB) (st : St)
    (n : Nat) (p : Phase) (hns : ∀ w ∈ script, wsStays w = false) :
    min n script.length ≤ countDials (plainRun c script st (some (n, p))).evs := by
  rw [plainRun_eq_loop]
  exact (loopRun_count (plainIter_none_next c) countDials countDials_append
    (plainIter_none_dials c) script hns st).2 n p

/-- **C19 reset, `Reconnect`** — a dial that connected puts the back-off counter back to 0,
    whatever happened before. -/
theorem reset_after_success_plain (c : Cfg) (st : St) (w : WsB) (ws : List WsB) (hw : wsOk w = true) :
    (plainRun c (w :: ws) st none).evs = (plainIter c st w none).evs ++ (plainRun c ws {} none).evs := by
  cases w using WsB.kinds with
  | drop k | dropPolite k | writeErr k => rfl
  | _ => cases hw

/-- **C19 close on cancel** — cancelled while the connection is up (after any number of
    messages, or while the handshake was being answered): the client writes a Close frame, closes
    its socket, `Dial` returns nil, the loop returns, for every server behaviour `fin`. -/
theorem closes_on_cancel_connected (c : Cfg) (st : St) (s k j : Nat) (fin : Finish) (rest : List Behaviour) :
    ∃ pre, (authRun true c (.okUri s (.serve k fin) :: rest) st (some (0, .conn j))).evs =
        pre ++ [.cancel, .closeFrame, .sockClosed, .reset, .returned] ∧
      (authRun true c (.okUri s (.serve k fin) :: rest) st (some (0, .conn j))).fin = .returned ∧
    (plainRun c [.serve k fin] st (some (0, .conn j))).evs =
        [.dial, .connected, .msgs (min j k), .cancel, .closeFrame, .sockClosed, .reset, .returned] := by
  refine ⟨sleep c st ++ [.post, .dial, .connected, .msgs (min j k)], ?_⟩
  simp [authRun, plainRun, here, authIter_tab, plainIter_tab, close, attempt, dialWs, mark]

theorem crun_preserves {μ α : Type} (fwd : Bool) (f : Conn μ → α) (h : ∀ c x, f (cstep fwd c x) = f c)
    (sent offered : List μ) (sched : List CStep) :
    f (crun fwd sent offered sched) = f ⟨sent, [], offered, []⟩ := by
  unfold crun
  generalize (⟨sent, [], offered, []⟩ : Conn μ) = c
  induction sched generalizing c with
  | nil => rfl
  | cons x xs ih => rw [List.foldl_cons, ih, h]

/-- **C19 order while connected** — for every sequence the peer sent, every sequence the
    application offers and every interleaving of the reader goroutine and the writer loop:
    what was forwarded is a prefix of what was sent, what was written is a prefix of what was
    offered (nothing reordered, duplicated or invented), and the rest is still pending. -/
theorem fifo_while_connected {μ : Type} (sent offered : List μ) (sched : List CStep) :
    (crun true sent offered sched).delivered ++ (crun true sent offered sched).wire = sent ∧
    (crun true sent offered sched).written ++ (crun true sent offered sched).offered = offered := by
  -- a step of either loop moves one message from the pending to the done side
  have := crun_preserves true (fun c => (c.delivered ++ c.wire, c.written ++ c.offered))
    (fun c x => by cases x <;> simp only [cstep] <;> split <;> simp [*]) sent offered sched
  exact ⟨congrArg Prod.fst this, congrArg Prod.snd this⟩

/-- with `ForwardIncoming == false` nothing is forwarded, the outgoing direction is unchanged -/
theorem fifo_no_forward {μ : Type} (sent offered : List μ) (sched : List CStep) :
    (crun false sent offered sched).delivered = [] :=
  crun_preserves false (·.delivered) (fun c x => by cases x <;> simp only [cstep] <;> split <;> rfl)
    sent offered sched

/-- the HTTP status of the access response is never looked at -/
theorem status_ignored (r : Bool) (c : Cfg) (st : St) (s s' : Nat) (w : WsB) (u : BadUri) (ph : Option Phase) :
    authIter r c st (.okUri s w) ph = authIter r c st (.okUri s' w) ph ∧
    authIter r c st (.badUri s u) ph = authIter r c st (.badUri s' u) ph ∧
    authIter r c st (.badJson s) ph = authIter r c st (.badJson s') ph ∧
    authIter r c st (.bodyErr s) ph = authIter r c st (.bodyErr s') ph :=
  ⟨rfl, rfl, rfl, rfl⟩

/-! ### deviations of the code from the property (full statements kept, refuted, weakened) -/

/-- full statement: the loop function is back promptly after the cancellation — it never sits
    in a call the cancellation does not interrupt. **False today.** -/
def returns_promptly : Prop :=
  (∀ (c : Cfg) (script : List Behaviour) (cn : CancelAt),
      promptB false (reconnectAuth c script cn).evs = true) ∧
  (∀ (c : Cfg) (script : List WsB) (cn : CancelAt),
      promptB false (reconnect c script cn).evs = true)

/-- witnesses: cancelled while the access request is unanswered, `ReconnectAuth` stays in
    `client.Do` until the 10 s client timeout (no context on the request); cancelled while the
    websocket handshake is unanswered, both loops stay in `DialContext` until the 45 s handshake
    deadline (gorilla 1.5.0 uses the context for the TCP connect only). -/
theorem not_returns_promptly : ¬ returns_promptly := by
  intro h
  have := h.1 ⟨20, 160, 2⟩ [.accessHang] (some (0, .post))
  revert this; decide

theorem not_returns_promptly_plain :
    promptB false (reconnect ⟨20, 160, 2⟩ [.hang] (some (0, .handshake))).evs = false ∧
    (reconnect ⟨20, 160, 2⟩ [.hang] (some (0, .handshake))).evs =
      [.dial, .cancel, .blocked 45000, .wait 20, .returned] := by decide

/-- what does hold: if no server leaves a request or a handshake unanswered, nothing blocks after
    the cancellation (for every script of such behaviours and every cancellation point) -/
theorem returns_promptly_partial :
    (∀ (c : Cfg) (script : List Behaviour) (cn : CancelAt), (∀ b ∈ script, hangs b = false) →
        promptB false (reconnectAuth c script cn).evs = true) ∧
    (∀ (c : Cfg) (script : List WsB) (cn : CancelAt), (∀ w ∈ script, wsHangs w = false) →
        promptB false (reconnect c script cn).evs = true) := by
  refine ⟨fun c script cn h => nac_of_any_false _ _ _ ?_, fun c script cn h => nac_of_any_false _ _ _ ?_⟩
  · rw [reconnectAuth, authRun_eq_loop]
    exact loopRun_any isBlocked rfl script _ cn fun b hb st ph =>
      authIter_any true c st b ph isBlocked rfl rfl rfl rfl (fun _ => rfl)
        fun dead => attempt_blocked b dead ph (h b hb)
  · rw [reconnect, plainRun_eq_loop]
    refine loopRun_any isBlocked rfl script _ cn fun w hw st ph => ?_
    rw [plainIter_tab]
    split
    · rfl
    all_goals exact close_any isBlocked rfl rfl rfl (attempt_blocked _ _ _ (h w hw)) rfl

/-- full statement: every socket the client opened is closed by the client. **False today.** -/
def all_sockets_closed : Prop :=
  ∀ (c : Cfg) (script : List Behaviour) (cn : CancelAt),
    (reconnectAuth c script cn).evs.any isAbandoned = false

/-- witness: a message `WriteMessage` rejects (e.g. `WsMessage{Type: 0}`) makes `Dial` return
    nil with the socket open and the reader goroutine alive; the loop reconnects at once (the
    back-off was reset) and, once cancelled, returns without ever closing that socket.  The
    same happens (reader gone) whenever the peer ends the connection: `Dial` only calls
    `c.Close()` on the `ctx.Done()` branch. -/
theorem not_all_sockets_closed : ¬ all_sockets_closed := by
  intro h
  have := h ⟨20, 160, 2⟩ [.okUri 200 (.serve 1 .writeErr), .reqFail, .reqFail] (some (2, .wait))
  revert this; decide

theorem abandoned_socket_trace :
    (reconnectAuth ⟨20, 160, 2⟩ [.okUri 200 (.serve 1 .writeErr), .reqFail, .reqFail] (some (2, .wait))).evs =
      [.post, .dial, .connected, .msgs 1, .writeFail, .abandoned true true, .reset,
       .post, .wait 20, .cancel, .returned] := by decide

/-- what does hold: a socket is left open only by an attempt whose connection was ended by the
    peer or by a write error — never by the cancellation itself (see `closes_on_cancel_connected`)
    and never by a failed attempt. -/
theorem all_sockets_closed_partial (r : Bool) (c : Cfg) (script : List Behaviour) (st : St) (cn : CancelAt)
    (h : ∀ b ∈ script, succeeds b = false) :
    (authRun r c script st cn).evs.any isAbandoned = false := by
  rw [authRun_eq_loop]
  exact loopRun_any isAbandoned rfl script st cn fun b hb st ph =>
    authIter_any r c st b ph isAbandoned rfl rfl rfl rfl (fun _ => rfl)
      fun dead => attempt_abandoned b dead ph (h b hb)

/-- **C19 (waits)** for every script and reachable loop state, both loops: the sleeps are the
    specification's (`specWaitsAuth`/`specWaitsPlain`: none at the start or after a success,
    `forAttempt c (s-1)` after `s` consecutive failures), and `forAttempt` starts at min, never
    decreases and stays within [min, max]. -/
theorem waits_follow_backoff (c : Cfg) :
    (∀ (script : List Behaviour) (st : St), st.Ok →
        waitsOf (authRun true c script st none).evs = specWaitsAuth c script (streak st)) ∧
    (∀ (script : List WsB) (st : St),
        waitsOf (plainRun c script st none).evs = specWaitsPlain c script st.attempt) ∧
    (effMin c < effMax c →
        forAttempt c 0 = effMin c ∧ (∀ j k, j ≤ k → forAttempt c j ≤ forAttempt c k) ∧
        ∀ k, effMin c ≤ forAttempt c k ∧ forAttempt c k ≤ effMax c) :=
  ⟨fun script st h => waits_follow_backoff_auth c script st h,
   fun script st => waits_follow_backoff_plain c script st,
   fun h => ⟨(backoff_shape c h).1, (backoff_shape c h).2.1, (backoff_shape c h).2.2.1⟩⟩

/-- **C19 (reset)** both loops: after an attempt whose `Dial` returned nil the loop continues
    exactly like a freshly started one. -/
theorem reset_after_success (c : Cfg) :
    (∀ (s₁ s₂ : List Behaviour) (b : Behaviour) (st st' : St), succeeds b = true →
        (authRun true c (s₁ ++ [b]) st none).fin = .live st' →
        st' = {} ∧ (authRun true c (s₁ ++ b :: s₂) st none).evs =
          (authRun true c (s₁ ++ [b]) st none).evs ++ (authRun true c s₂ {} none).evs) ∧
    (∀ (st : St) (w : WsB) (ws : List WsB), wsOk w = true →
        (plainRun c (w :: ws) st none).evs = (plainIter c st w none).evs ++ (plainRun c ws {} none).evs) :=
  ⟨fun s₁ s₂ b st st' hb hl => ⟨reset_after_success_auth true c s₁ b st st' hb hl,
      reset_after_success_auth_trace true c s₁ s₂ b st st' hb hl⟩,
   fun st w ws hw => reset_after_success_plain c st w ws hw⟩

/-- **C19 (liveness)** both loops: no server behaviour makes the uncancelled loop return; every
    scripted behaviour gets its attempt; with a cancellation at iteration `n` the `n` attempts
    before it all happen. -/
theorem always_retries_while_live (c : Cfg) :
    (∀ (script : List Behaviour) (st : St), (authRun true c script st none).fin ≠ .returned) ∧
    (∀ (script : List WsB) (st : St), (plainRun c script st none).fin ≠ .returned) ∧
    (∀ (script : List Behaviour) (st : St), (∀ b ∈ script, stays b = false) →
        countPosts (authRun true c script st none).evs = script.length) ∧
    (∀ (script : List WsB) (st : St), (∀ w ∈ script, wsStays w = false) →
        countDials (plainRun c script st none).evs = script.length) ∧
    (∀ (script : List Behaviour) (st : St) (n : Nat) (p : Phase), (∀ b ∈ script, stays b = false) →
        min n script.length ≤ countPosts (authRun true c script st (some (n, p))).evs) ∧
    (∀ (script : List WsB) (st : St) (n : Nat) (p : Phase), (∀ w ∈ script, wsStays w = false) →
        min n script.length ≤ countDials (plainRun c script st (some (n, p))).evs) :=
  ⟨fun s st => always_retries_while_live_auth true c s st,
   fun s st => always_retries_while_live_plain c s st,
   fun s st h => (every_behaviour_attempted_auth true c s st h).1,
   fun s st h => (every_behaviour_attempted_plain c s st h).1,
   fun s st n p h => attempts_before_cancel_auth true c s st n p h,
   fun s st n p h => attempts_before_cancel_plain c s st n p h⟩

/-- **C19 (quiescence)** both loops, every script, every loop state, every cancellation point:
    no access request and no websocket dial starts after the cancellation. -/
theorem quiescent_after_cancel (c : Cfg) (cn : CancelAt) :
    (∀ (script : List Behaviour) (st : St), quietB false (authRun true c script st cn).evs = true) ∧
    (∀ (script : List WsB) (st : St), quietB false (plainRun c script st cn).evs = true) :=
  ⟨fun s st => quiescent_after_cancel_auth c s st cn, fun s st => quiescent_after_cancel_plain c s st cn⟩

/-- a run through every kind of failure, a connection that is dropped, more failures: the
    waits grow 20, 40, 80, 160, 160, restart at 20 after the success; 403 with a JSON uri is dialled -/
example :
    (reconnectAuth ⟨20, 160, 2⟩
      [.reqFail, .badJson 500, .badUri 401 .empty, .okUri 200 .refuse, .bodyErr 200, .okUri 200 (.reject 403),
       .okUri 403 (.serve 2 (.drop false)), .reqFail, .okUri 200 (.serve 0 (.drop true)), .reqFail] none).evs =
      [.post, .wait 20, .post, .wait 40, .post, .wait 80, .post, .dial, .wait 160, .post,
       .wait 160, .post, .dial,
       .wait 160, .post, .dial, .connected, .msgs 2, .serverDrop, .abandoned false false, .reset,
       .post, .wait 20, .post, .dial, .connected, .msgs 0, .serverDrop, .closeFrame, .abandoned true false, .reset,
       .post] := by decide +kernel

/-- cancelled in the back-off sleep (today's code): the sleep ends, no further request -/
example :
    (reconnectAuth ⟨20, 160, 3⟩ [.reqFail, .reqFail, .reqFail] (some (2, .wait))).evs =
      [.post, .wait 20, .post, .wait 60, .cancel, .returned] := by decide

/-- cancelled with the access request in flight: it completes, the dial is not made -/
example :
    (reconnectAuth ⟨20, 160, 2⟩ [.okUri 200 (.serve 3 .stay)] (some (0, .post))).evs =
      [.post, .cancel, .returned] := by decide

/-- `Reconnect`: cancelled while its dial is being refused, it still sleeps the back-off, then returns -/
example :
    (reconnect ⟨20, 160, 2⟩ [.refuse, .reject 500, .serve 1 (.drop false), .refuse] (some (3, .handshake))).evs =
      [.dial, .wait 20, .dial, .wait 40, .dial, .connected, .msgs 1, .serverDrop, .abandoned false false, .reset,
       .dial, .cancel, .wait 20, .returned] := by decide

/-- a server that accepts and drops at once is retried without any wait (the back-off only
    counts attempts whose `Dial` returned an error) -/
example (n : Nat) : specWaitsPlain ⟨20, 160, 2⟩ (List.replicate n (.serve 0 (.drop false))) 0 = [] := by
  induction n with
  | zero => rfl
  | succ n ih => simpa [List.replicate_succ, specWaitsPlain, wsStays, wsOk] using ih

example :
    (crun true [1, 2, 3] [7, 8] [.read, .write, .write, .write, .read]).delivered = [1, 2] ∧
    (crun true [1, 2, 3] [7, 8] [.read, .write, .write, .write, .read]).written = [7, 8] := by decide

end Reconws
