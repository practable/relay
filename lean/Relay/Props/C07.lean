import Relay.Model.Conc
import Relay.Extracted.Handlers

/-!
# C07 — cancelling a booking takes effect and stays in effect, whatever races with it

* The full statement `DenySticks` (every interleaving of the handlers' internal steps, any number of
  instances) is FALSE of the current code, in two ways; both are proved with explicit schedules and both
  are replayed on the real handlers through the scheduling points (known findings K1, K2):
  - `race_session_erases_deny`: a session request reads "not denied"; a complete deny of the same booking
    runs and is acknowledged; the session's `Allow` then removes the deny entry and a code is minted.
  - `race_admission_slips_past`: an admission passes the deny re-check; the deny completes and the
    crossbar closes the (still empty) channel set; the hub then records the new connection: a live
    connection under a denied booking that nothing will close.
* Proved positively: `Relay.deny_sticks_atomic_partial` (all sequential histories, any bookings),
  `Relay.deny_effect` (one acknowledged deny: listed, connections gone, codes gone, other bookings
  untouched), `TtlCode.purge_kills`, `ChanMap.delparent_closes_exactly`.
* `handlers_as_modelled`: the order of store operations and scheduling points in the seven code paths, as
  REGENERATED from the source on every run, is the one the interleaving model is built from.
-/

namespace Conc

/-- the property as stated: for every number of requests and every schedule -/
def DenySticks : Prop := ∀ acts : List Act, quiescent (run acts) = true → denySticks (run acts) = true

/-- K1: session(check) ‖ deny(complete) ‖ session(allow, mint) -/
def scheduleK1 : List Act :=
  [.spawn .sStart, .client 0,                        -- session reads IsDenied = false, parks before Allow
   .spawn .dStart, .client 1, .client 1, .client 1, .sys .crossbar, .client 1,   -- deny: listed, purged, notified, processed, 204
   .client 0, .client 0, .client 0]                  -- session: Allow (erases the deny), mint, 200

theorem race_session_erases_deny :
    let c := run scheduleK1
    quiescent c = true ∧ c.sh.acked = true ∧ c.sh.denied = false ∧ c.sh.codes ≠ [] ∧
      (c.threads.map (·.pc)) = [.done 200, .done 204] := by decide

/-- K2: admission(re-check passed) ‖ deny(complete, crossbar processed) ‖ hub(records late) -/
def scheduleK2 : List Act :=
  [.spawn .sStart, .client 0, .client 0, .client 0, .client 0,     -- a session mints code 0
   .spawn (.wStart 0), .client 1, .client 1,                       -- admission: exchange ok, deny re-check false; parked at ws.checked
   .spawn .dStart, .client 2, .client 2, .client 2, .sys .crossbar, .client 2,   -- deny complete: nothing recorded yet, nothing closed
   .client 1, .sys .hubRecord, .client 1]                          -- admission registers; hub records; joined

theorem race_admission_slips_past :
    let c := run scheduleK2
    quiescent c = true ∧ c.sh.acked = true ∧ c.sh.denied = true ∧ c.sh.members = [1] ∧ c.sh.cancelled = [] ∧
      (c.threads.map (·.pc)) = [.done 200, .done 1, .done 204] := by decide

theorem not_DenySticks : ¬ DenySticks := by
  intro h
  have := h scheduleK1 (by decide)
  revert this
  decide

/-- the same two requests one after the other are fine (the model is not trivially broken):
    deny then session → refused; session+admission then deny → connection closed -/
example : let c := run [.spawn .dStart, .client 0, .client 0, .client 0, .sys .crossbar, .client 0, .spawn .sStart, .client 1]
    quiescent c = true ∧ denySticks c = true ∧ (c.threads.map (·.pc)) = [.done 204, .done 400] := by decide

example : let c := run [.spawn .sStart, .client 0, .client 0, .client 0, .client 0, .spawn (.wStart 0), .client 1, .client 1, .client 1,
                        .sys .hubRecord, .client 1, .spawn .dStart, .client 2, .client 2, .client 2, .sys .crossbar, .client 2, .sys (.teardown 1)]
    quiescent c = true ∧ denySticks c = true ∧ c.sh.members = [] := by decide

/-- **source obligation**: the order of store operations and scheduling points in the handlers is the one
    the model's thread programs are built from (a removed deny re-check, a reordered Allow, a missing purge
    or notification changes this table and the obligation no longer elaborates). -/
theorem handlers_as_modelled :
    Extracted.sessionHandler = ["DenyStore.IsDenied", "point:session.checked", "DenyStore.Allow", "point:session.allowed",
                                "CodeStore.SubmitToken", "point:session.minted"] ∧
    Extracted.denyHandler = ["DenyStore.Now", "DenyStore.Deny", "point:deny.listed", "CodeStore.DeleteByBookingID",
                             "point:deny.purged", "send:config.DenyChannel", "point:deny.notified"] ∧
    Extracted.allowHandler = ["DenyStore.Now", "DenyStore.Allow", "point:allow.done"] ∧
    Extracted.serveWs = ["point:ws.pre_exchange", "CodeStore.ExchangeCode", "CodeStore.GetTime", "DenyStore.IsDenied",
                         "point:ws.checked", "send:client.hub.register", "point:ws.registered", "close:cancelled"] ∧
    Extracted.hubRun = ["dcs.Add", "point:hub.recorded", "call:remove", "send:client.send", "call:remove"] ∧
    Extracted.hubRemove = ["close:client.send", "dcs.DeleteChild", "point:hub.removed"] ∧
    Extracted.handleConnections = ["dcs.DeleteAndCloseParent", "point:xbar.deny_processed"] :=
  ⟨rfl, rfl, rfl, rfl, rfl, rfl, rfl⟩

end Conc
