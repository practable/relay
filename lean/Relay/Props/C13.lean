import Relay.Model.Lifecycle
import Relay.Extracted.Loops
import Relay.Extracted.Handlers

/-!
# C13 — whatever a connection used is given back when it ends

* `all_released`: for every end cause (client close, network loss, token expiry, cancellation, eviction,
  shutdown) occurring in any reachable state of the connection's life-cycle machine, and every schedule of
  its three goroutines afterwards: once no goroutine has a step left, the socket is closed, the connection
  is in neither the hub nor the cancel-channel store, and none of its goroutines is alive. Invariant,
  preservation and conclusion are proved for every state of the machine (13 flags); `released_fin` and
  `progress_fin` spell the same facts out over the 13 flags.
* `progress`: while it has ended and is not yet released, some goroutine has a step; every step strictly
  decreases the number of live goroutines: at most 3 steps to quiescence, under every schedule.
* `footprint`: a released connection has no goroutine left.
* bookkeeping: `ChanMap.delchild_removes`, `Relay.gone_not_reported`, `Hub` removal.
* `shutdown_quiesces`: every service loop's shutdown case, as regenerated from the source, leaves the loop;
  `loops_present`: each of the five service loops has one.
* `teardown_as_modelled`: the reader's deferred tear-down, the hub's removal and the watcher's `close(cancelled)`, as
  regenerated from the source, are the machine's steps.
NOT proved because false today (known finding K6): a websocket refused at admission is left open by the
relay (`serveWs` returns without closing the upgraded socket).
-/

namespace Life

/-- facts that hold in every reachable state -/
def Inv (s : St) : Bool :=
  (!s.inHub || s.reader) &&                 -- a member still has its reader (whose exit unregisters it)
  (!s.inDcs || s.inHub) &&                  -- a recorded cancel channel belongs to a member
  (!s.socketOpen || (s.reader && s.writer)) && -- only the reader or writer exit closes the socket, and each does
  (!s.finished || !s.reader) && (s.reader || s.finished) &&
  (!s.cancelled || !s.watcher) && (s.watcher || s.cancelled) &&
  (s.inHub || s.sendClosed)                 -- leaving the hub closes the queue

/-- the state with the given 13 flags (the machine's whole state space is `mk13` of 13 booleans) -/
def mk13 (a b c d e f g h i j k l m : Bool) : St :=
  { socketOpen := a, peerGone := b, inHub := c, inDcs := d, sendClosed := e, denied := f, timerFired := g,
    shutdown := h, cancelled := i, finished := j, reader := k, writer := l, watcher := m }

theorem inv_init : Inv {} = true := by decide

def allProcs : List Proc := [.reader, .writer, .watcher]

theorem proc_mem (p : Proc) : p ∈ allProcs := by cases p <;> decide

/-! `Inv`, `ended`, `released` and the guards are boolean combinations of the flags and every operation sets a few of
them to constants, so each fact below is a propositional consequence of its hypotheses once the operation is fixed;
`grind` closes these. -/

theorem inv_cause_all (s : St) (c : Cause) (h : Inv s = true) : Inv (cause s c) = true := by
  cases c with
  | denied | evicted => grind [Inv, cause]
  | _ => exact h  -- the other causes set a flag that `Inv` does not read

theorem inv_step_all (s : St) (p : Proc) (h : Inv s = true) : Inv (step s p) = true := by
  unfold step
  split
  · exact h
  · cases p <;> grind [Inv, enabled]

theorem ended_step (s : St) (p : Proc) (h : ended s = true) : ended (step s p) = true := by
  unfold step
  split
  · exact h
  · cases p <;> grind [ended]

/-- Why: if the reader is alive and idle, the socket is open, so the writer is alive (`Inv`) and idle, so `cancelled` is
    unset, so the watcher is alive (`Inv`) and idle — but then no cause has occurred. If the reader is gone, it closed
    `finished` and the socket and left hub and store; the watcher, woken by `finished`, is gone and has closed
    `cancelled`; the writer, woken by `cancelled`, is gone. -/
theorem released_all (s : St) (hI : Inv s = true) (hE : ended s = true) (hQ : quiescent s = true) : released s = true := by
  cases hr : s.reader <;> grind [Inv, ended, quiescent, enabled, released]

theorem released_fin : ∀ a b c d e f g h i j k l m : Bool,
    Inv (mk13 a b c d e f g h i j k l m) = true → ended (mk13 a b c d e f g h i j k l m) = true →
    quiescent (mk13 a b c d e f g h i j k l m) = true → released (mk13 a b c d e f g h i j k l m) = true :=
  fun a b c d e f g h i j k l m => released_all (mk13 a b c d e f g h i j k l m)

theorem run_preserves {P : St → Prop} (hstep : ∀ s p, P s → P (step s p)) (s : St) (sched : List Proc) (h : P s) :
    P (run s sched) :=
  List.foldlRecOn sched step h fun s h p _ => hstep s p h

theorem inv_run (s : St) (sched : List Proc) (h : Inv s = true) : Inv (run s sched) = true :=
  run_preserves inv_step_all s sched h

/-- **all released**: whatever state the connection is in (any reachable state `s0`: any earlier history
    of its goroutines), whatever ends it, and however its goroutines are scheduled afterwards — when they
    have nothing left to do, everything has been given back. -/
theorem all_released (s0 : St) (h0 : Inv s0 = true) (c : Cause) (sched : List Proc)
    (hq : quiescent (run (cause s0 c) sched) = true) : released (run (cause s0 c) sched) = true := by
  have hI := inv_run _ sched (inv_cause_all s0 c h0)
  have hE : ended (cause s0 c) = true := by cases c <;> simp [ended, cause]
  exact released_all _ hI (run_preserves ended_step _ sched hE) hq

def alive (s : St) : Nat := s.reader.toNat + s.writer.toNat + s.watcher.toNat

theorem alive_step (s : St) (p : Proc) (h : enabled s p = true) : alive (step s p) + 1 = alive s := by
  cases p <;> grind [step, enabled, alive, Bool.toNat]

/-- **progress, and a bound**: an ended connection that is not yet released always has a goroutine with a
    step, and each step ends one goroutine — so at most three steps remain under every schedule. -/
theorem progress (s : St) (hI : Inv s = true) (hE : ended s = true) (hR : released s = false) :
    ∃ p, enabled s p = true ∧ alive (step s p) + 1 = alive s := by
  have hQ : quiescent s = false := by
    cases hq : quiescent s
    · rfl
    · rw [released_all s hI hE hq] at hR; cases hR
  simp only [quiescent, Bool.and_eq_false_iff, Bool.not_eq_false'] at hQ
  rcases hQ with (h | h) | h <;> exact ⟨_, h, alive_step s _ h⟩

theorem progress_fin : ∀ a b c d e f g h i j k l m : Bool,
    Inv (mk13 a b c d e f g h i j k l m) = true → ended (mk13 a b c d e f g h i j k l m) = true →
    released (mk13 a b c d e f g h i j k l m) = false →
    allProcs.any (fun p => enabled (mk13 a b c d e f g h i j k l m) p &&
      (alive (step (mk13 a b c d e f g h i j k l m) p) + 1 == alive (mk13 a b c d e f g h i j k l m))) = true := by
  intro a b c d e f g h i j k l m hI hE hR
  obtain ⟨p, hp, ha⟩ := progress _ hI hE hR
  exact List.any_eq_true.2 ⟨p, proc_mem p, by simp [hp, ha]⟩

/-- the goroutine footprint of a connection that is still running is exactly its three goroutines; of a
    released one, zero (so the relay's footprint is a function of the currently joined connections only) -/
theorem footprint (s : St) : released s = true → alive s = 0 := by
  intro h
  simp only [released, Bool.and_eq_true, Bool.not_eq_true'] at h
  simp [alive, h.1.1.2, h.1.2, h.2]

/-! non-vacuity: expiry of an idle connection; deny of a connection whose client never reacts -/
example : released (run (cause {} .expiry) [.watcher, .writer, .reader]) = true := by decide
example : released (run (cause {} .denied) [.reader, .watcher, .writer, .reader]) = true := by decide
example : quiescent (cause {} .expiry) = false := by decide

/-! **source obligations**, over the tables regenerated from the source: the service loops' shutdown cases leave their loop
(fix 1daf38d), and the tear-down steps are the ones modelled: the reader's deferred function unregisters, closes the socket and
closes `finished`; the hub's removal closes the queue and deletes the cancel-channel entry; `serveWs`'s watcher closes `cancelled`. -/

theorem shutdown_quiesces :
    ∀ lc ∈ Extracted.loopCases, (lc.2.1 = "closed" ∨ lc.2.1 = "c.closed" ∨ lc.2.1 = "cancelled") → lc.2.2 = "return" := by decide +kernel

theorem loops_present :
    ∀ f ∈ ["Relay", "handleConnections", "Client.writePump", "Client.statsReporter", "CodeStore.keepClean"],
      ∃ lc ∈ Extracted.loopCases, lc.1 = f ∧ (lc.2.1 = "closed" ∨ lc.2.1 = "c.closed") := by decide +kernel

theorem teardown_as_modelled :
    "send:c.hub.unregister" ∈ Extracted.readPump ∧ "conn.Close" ∈ Extracted.readPump ∧ "close:c.finished" ∈ Extracted.readPump ∧
    Extracted.hubRemove = ["close:client.send", "dcs.DeleteChild", "point:hub.removed"] ∧
    "close:cancelled" ∈ Extracted.serveWs := by decide +kernel

end Life
