import Relay.Model.Rwc
import Relay.Lemmas.RwcKV

/-!
# C16 — each destination rule owns one outgoing connection, replaced/removed on command

All theorems quantify over every operation history (`∀ ops : List Op`): rule add / replace /
delete / delete-all, broadcasts, messages coming in from destinations, and destinations going
down, coming up and dropping connections, over arbitrary ids, streams, destinations and any
(static) aggregation configuration.

* `one_live_per_id`          one client per id; a generation belongs to one id; every generation
                             ever created is either that registered client or cancelled
* `live_is_latest_rule`      the live generation of id i is the one created by the most recent add
                             of i that no delete/deleteAll followed (explicit history form)
* `hub_refines_cell`         the same as a refinement to a one-cell-per-id specification
* `live_matches_rule`        the live client's destination and stream are those of the listed rule
* `nothing_after_supersede`  after replace/delete/deleteAll of i the old generation is in the
                             delivered-to set of no later broadcast / incoming message, and is never live again
* `others_keep_flowing`      frame: an op on id i leaves rule, client, liveness and deliveries of j ≠ i alone
* `listing_exact`            rule listing = added − deleted, per id; no duplicates
* `reserved_id_unreachable`  "deleteAll" is never a key of rules / clients
* `id_taken_verbatim`        every id string ≠ "deleteAll" (blank/slash/case variants of it too) is stored under
                             exactly itself, all other ids untouched; `delete_taken_verbatim` likewise for delete
* `no_orphans`               the ghost observation printed by the driver is always empty
* `cancelled_never_dials`    a generation whose context was cancelled opens no connection because of any later operation
                             (its destination coming up / dropping, time passing, ...); `superseded_never_connects` is the
                             history form; `accepts_count_dials` ties the per-destination accept counter to `dials`;
                             `idle_is_silent`: time passing changes nothing
-/

namespace Rwc
open KV

/-- representation invariant of the hub -/
structure Inv (s : St) : Prop where
  ndr : NoDupKeys s.rules
  ndc : NoDupKeys s.clients
  agree : ∀ id, lookup s.rules id = (lookup s.clients id).map (fun c => (⟨c.stream, c.dest⟩ : Rule))
  fresh : ∀ id c, lookup s.clients id = some c → c.gen < s.nextGen
  cancLt : ∀ g, g ∈ s.cancelled → g < s.nextGen
  liveNC : ∀ id c, lookup s.clients id = some c → c.gen ∉ s.cancelled
  inj : ∀ i j ci cj, lookup s.clients i = some ci → lookup s.clients j = some cj →
          ci.gen = cj.gen → i = j
  complete : ∀ g, g < s.nextGen → g ∈ s.cancelled ∨ ∃ id c, lookup s.clients id = some c ∧ c.gen = g
  resv : lookup s.clients reserved = none

theorem inv_empty (s : St) (h1 : ∀ g ∈ s.cancelled, g < s.nextGen) (h2 : ∀ g, g < s.nextGen → g ∈ s.cancelled) :
    Inv { s with rules := [], clients := [] } :=
  { ndr := trivial, ndc := trivial, agree := fun _ => rfl, resv := rfl, cancLt := h1
    complete := fun g hg => Or.inl (h2 g hg)
    fresh := fun _ _ h => by simp at h
    liveNC := fun _ _ h => by simp at h
    inj := fun _ _ _ _ h => by simp at h }

theorem inv_init (cfg : KV (List String)) : Inv { cfg := cfg } :=
  inv_empty { cfg := cfg } (fun _ h => by simp at h) (fun _ h => by simp at h)

/-- the cancelled log after superseding the client of `id` -/
def cancelOld (s : St) (id : String) : List Gen :=
  match lookup s.clients id with
  | some c => c.gen :: s.cancelled
  | none => s.cancelled

theorem mem_cancelOld (s : St) (id : String) (g : Gen) :
    g ∈ cancelOld s id ↔ g ∈ s.cancelled ∨ ∃ c, lookup s.clients id = some c ∧ c.gen = g := by
  unfold cancelOld
  cases h : lookup s.clients id with
  | none => simp
  | some c => simp [or_comm, eq_comm]

theorem step_add (s : St) (id : String) (st : Stream) (d : Dest) (h : id ≠ reserved) :
    step s (.add id st d) =
      { s with cancelled := cancelOld s id, rules := insert s.rules id ⟨st, d⟩,
               clients := insert s.clients id ⟨s.nextGen, d, st⟩, nextGen := s.nextGen + 1,
               accepts := if isUp s d then bump s.accepts d 1 else s.accepts } := by
  simp only [step, h, if_false, cancelOld]
  rfl

theorem step_add_reserved (s : St) (st : Stream) (d : Dest) : step s (.add reserved st d) = s := by
  simp [step]

theorem step_delete (s : St) (id : String) (h : id ≠ reserved) :
    step s (.delete id) =
      { s with cancelled := cancelOld s id, clients := erase s.clients id, rules := erase s.rules id } := by
  simp only [step, h, if_false, cancelOld]
  rfl

theorem step_deleteAll (s : St) :
    step s (.delete reserved) =
      { s with cancelled := gens s.clients ++ s.cancelled, rules := [], clients := [] } := by
  simp [step]

theorem mem_gens (m : KV Cl) (nd : NoDupKeys m) (g : Gen) :
    g ∈ gens m ↔ ∃ id c, lookup m id = some c ∧ c.gen = g := by
  unfold gens
  rw [List.mem_map]
  constructor
  · rintro ⟨⟨id, c⟩, hm, e⟩
    exact ⟨id, c, lookup_of_mem m id c nd hm, e⟩
  · rintro ⟨id, c, hl, e⟩
    exact ⟨(id, c), mem_of_lookup m id c hl, e⟩

theorem delete_inv (s : St) (id : String) (hid : id ≠ reserved) (h : Inv s) :
    Inv (step s (.delete id)) := by
  rw [step_delete s id hid]
  have was {k : String} {c : Cl} (hc : lookup (erase s.clients id) k = some c) : id ≠ k ∧ lookup s.clients k = some c := by
    by_cases hk : id = k
    · rw [hk, lookup_erase_self] at hc; cases hc
    · exact ⟨hk, lookup_erase_ne _ hk ▸ hc⟩
  exact {
    ndr := nodup_erase _ _ h.ndr
    ndc := nodup_erase _ _ h.ndc
    agree := fun k => by
      by_cases hk : id = k
      · subst hk; simp
      · simp only [lookup_erase_ne _ hk]; exact h.agree k
    fresh := fun k c hc => h.fresh k c (was hc).2
    cancLt := fun g hg => by
      rcases (mem_cancelOld s id g).mp hg with e | ⟨c, hc, e⟩
      · exact h.cancLt g e
      · exact e ▸ h.fresh id c hc
    liveNC := fun k c hc hg => by
      obtain ⟨hk, hc⟩ := was hc
      rcases (mem_cancelOld s id _).mp hg with e | ⟨c', hc', e⟩
      · exact h.liveNC k c hc e
      · exact hk (h.inj id k c' c hc' hc e)
    inj := fun i j ci cj hi hj => h.inj i j ci cj (was hi).2 (was hj).2
    complete := fun g hg => by
      rcases h.complete g hg with e | ⟨k, c, hc, e⟩
      · exact Or.inl ((mem_cancelOld s id g).mpr (Or.inl e))
      · by_cases hk : id = k
        · subst hk; exact Or.inl ((mem_cancelOld s id g).mpr (Or.inr ⟨c, hc, e⟩))
        · exact Or.inr ⟨k, c, (lookup_erase_ne _ hk).trans hc, e⟩
    resv := (lookup_erase_ne _ hid).trans h.resv }

theorem push_inv (t : St) (id : String) (st : Stream) (d : Dest) (ac : KV Nat) (hid : id ≠ reserved)
    (hc : lookup t.clients id = none) (h : Inv t) :
    Inv { t with rules := (id, ⟨st, d⟩) :: t.rules, clients := (id, ⟨t.nextGen, d, st⟩) :: t.clients,
                 nextGen := t.nextGen + 1, accepts := ac } := by
  have hnew : ∀ k c, lookup t.clients k = some c → c.gen ≠ t.nextGen :=
    fun k c hk => Nat.ne_of_lt (h.fresh k c hk)
  exact {
    ndr := ⟨by rw [h.agree, hc]; rfl, h.ndr⟩
    ndc := ⟨hc, h.ndc⟩
    agree := fun k => by
      simp only [lookup]; split
      · rfl
      · exact h.agree k
    fresh := fun k c hk => by
      simp only [lookup] at hk; split at hk
      · cases hk; exact Nat.lt_succ_self _
      · exact Nat.lt_succ_of_lt (h.fresh k c hk)
    cancLt := fun g hg => Nat.lt_succ_of_lt (h.cancLt g hg)
    liveNC := fun k c hk hg => by
      simp only [lookup] at hk; split at hk
      · cases hk; exact Nat.lt_irrefl _ (h.cancLt _ hg)
      · exact h.liveNC k c hk hg
    inj := fun i j ci cj hi hj e => by
      simp only [lookup] at hi hj
      split at hi <;> split at hj
      · next h1 h2 => exact h1.symm.trans h2
      · cases hi; exact absurd e.symm (hnew j cj hj)
      · cases hj; exact absurd e (hnew i ci hi)
      · exact h.inj i j ci cj hi hj e
    complete := fun g hg => by
      rcases Nat.lt_succ_iff_lt_or_eq.mp hg with hlt | rfl
      · rcases h.complete g hlt with e | ⟨k, c, hk, e⟩
        · exact Or.inl e
        · refine Or.inr ⟨k, c, ?_, e⟩
          simp only [lookup]
          rw [if_neg (fun e' => by rw [e', hk] at hc; cases hc)]
          exact hk
      · exact Or.inr ⟨id, ⟨t.nextGen, d, st⟩, by simp [lookup], rfl⟩
    resv := by simp only [lookup, if_neg hid]; exact h.resv }

theorem deleteAll_inv (s : St) (h : Inv s) : Inv (step s (.delete reserved)) := by
  rw [step_deleteAll s]
  refine inv_empty { s with cancelled := gens s.clients ++ s.cancelled } (fun g hg => ?_) (fun g hg => ?_)
  · rcases List.mem_append.mp hg with e | e
    · obtain ⟨id, c, hc, rfl⟩ := (mem_gens s.clients h.ndc g).mp e
      exact h.fresh id c hc
    · exact h.cancLt g e
  · refine List.mem_append.mpr ?_
    rcases h.complete g hg with e | ⟨k, c, hc, e⟩
    · exact Or.inr e
    · exact Or.inl ((mem_gens s.clients h.ndc g).mpr ⟨k, c, hc, e⟩)

/-- does `op` touch id `i`: an add of i, a delete of i, or a deleteAll -/
def touches (i : String) : Op → Bool
  | .add j _ _ => j == i
  | .delete j => j == i || j == reserved
  | _ => false

/-- an op that is neither an add nor a delete: a message, the environment, or time passing -/
def Op.isEnv : Op → Bool
  | .add _ _ _ | .delete _ => false
  | _ => true

theorem step_env (s : St) (op : Op) (h : op.isEnv = true) :
    ∃ dn ac, step s op = { s with downs := dn, accepts := ac } := by
  cases op with
  | add _ _ _ | delete _ => cases h
  | bcast _ _ | inject _ | idle => exact ⟨_, _, rfl⟩
  | down d | up d | drop d => simp only [step]; split <;> exact ⟨_, _, rfl⟩

/-- for `cases op using Op.kinds`: the reserved id is told from the other ids once, here -/
theorem Op.kinds {motive : Op → Prop} (refused : ∀ st d, motive (.add reserved st d))
    (add : ∀ id st d, id ≠ reserved → motive (.add id st d)) (del : ∀ id, id ≠ reserved → motive (.delete id))
    (delAll : motive (.delete reserved)) (env : ∀ op, op.isEnv = true → motive op) (op : Op) : motive op := by
  cases op with
  | add id st d =>
    by_cases hid : id = reserved
    · exact hid ▸ refused st d
    · exact add id st d hid
  | delete id =>
    by_cases hid : id = reserved
    · exact hid ▸ delAll
    · exact del id hid
  | _ => exact env _ rfl

theorem step_inv (s : St) (op : Op) (h : Inv s) : Inv (step s op) := by
  cases op using Op.kinds with
  | refused st d => rw [step_add_reserved]; exact h
  | add id st d hid =>
    -- an accepted add is the delete of the id followed by the registration of a client under the free id
    have ht := delete_inv s id hid h
    rw [step_delete s id hid] at ht
    rw [step_add s id st d hid]
    exact push_inv _ id st d _ hid (lookup_erase_self _ _) ht
  | del id hid => exact delete_inv s id hid h
  | delAll => exact deleteAll_inv s h
  | env op he =>
    -- the invariant does not mention `downs` and `accepts`
    obtain ⟨dn, ac, e⟩ := step_env s op he
    rw [e]
    exact { h with }

theorem run_inv (ops : List Op) (s : St) (h : Inv s) : Inv (run ops s) :=
  List.foldlRecOn ops step h (fun s hs op _ => step_inv s op hs)

theorem run_append (a b : List Op) (s : St) : run (a ++ b) s = run b (run a s) := by
  simp [run, List.foldl_append]

theorem run_cons (op : Op) (ops : List Op) (s : St) : run (op :: ops) s = run ops (step s op) := rfl

/-- the start state of a history: empty hub, any aggregation configuration, every destination accepting
    (`down` ops lead to any other environment) -/
def start (cfg : KV (List String)) : St := { cfg := cfg }

theorem inv_run (cfg : KV (List String)) (ops : List Op) : Inv (run ops (start cfg)) :=
  run_inv ops _ (inv_init cfg)

/-- **C16 `one_live_per_id`**: in every reachable state (a) an id has at most one client entry,
    (b) a generation is the client of at most one id, (c) every generation created so far that has
    not been cancelled *is* the registered client of some id — so the un-cancelled generations
    (each owning one `ReconWs`) are in one-to-one correspondence with the ids listed. -/
theorem one_live_per_id (cfg : KV (List String)) (ops : List Op) :
    let s := run ops (start cfg)
    (∀ id c c', (id, c) ∈ s.clients → (id, c') ∈ s.clients → c = c') ∧
    (∀ i j ci cj, (i, ci) ∈ s.clients → (j, cj) ∈ s.clients → ci.gen = cj.gen → i = j) ∧
    (∀ g, g < s.nextGen → g ∉ s.cancelled → ∃ id c, (id, c) ∈ s.clients ∧ c.gen = g) ∧
    (∀ id c, (id, c) ∈ s.clients → c.gen < s.nextGen ∧ c.gen ∉ s.cancelled) := by
  intro s
  have hI : Inv s := inv_run cfg ops
  -- without duplicate keys, being an entry is being looked up: the four claims are fields of the invariant
  simp only [mem_iff_lookup _ _ _ hI.ndc]
  exact ⟨fun id c c' h1 h2 => Option.some.inj (h1.symm.trans h2), hI.inj,
    fun g hg hnc => (hI.complete g hg).resolve_left hnc, fun id c h => ⟨hI.fresh id c h, hI.liveNC id c h⟩⟩

/-- the ghost observation `orphans` (printed by the model driver, observed on the real hub as
    "a client no longer listed whose context is not cancelled") is always empty -/
theorem no_orphans (cfg : KV (List String)) (ops : List Op) : orphans (run ops (start cfg)) = [] := by
  have hI : Inv (run ops (start cfg)) := inv_run cfg ops
  unfold orphans
  rw [List.filter_eq_nil_iff]
  intro g hg
  have hlt : g < (run ops (start cfg)).nextGen := List.mem_range.mp hg
  rcases hI.complete g hlt with e | ⟨id, c, hc, e⟩
  · simp [e]
  · have : g ∈ gens (run ops (start cfg)).clients := (mem_gens _ hI.ndc g).mpr ⟨id, c, hc, e⟩
    simp [this]

theorem step_refines (s : St) (op : Op) (id : String) :
    view (step s op) id = specStep id (view s id) op := by
  cases op using Op.kinds with
  | refused st d => rw [step_add_reserved]; simp [specStep]
  | add i st d hi =>
    rw [step_add s i st d hi]
    by_cases hk : i = id
    · subst hk; simp [view, specStep, hi]
    · simp [view, specStep, hi, hk, lookup_insert_ne _ _ hk]
  | del i hi =>
    rw [step_delete s i hi]
    by_cases hk : i = id
    · subst hk; simp [view, specStep]
    · simp [view, specStep, hi, hk, lookup_erase_ne _ hk]
  | delAll => rw [step_deleteAll]; simp [view, specStep]
  | env op he =>
    obtain ⟨dn, ac, e⟩ := step_env s op he
    have hs : specStep id (view s id) op = view s id := by
      cases op with
      | add _ _ _ | delete _ => cases he
      | _ => rfl
    rw [e, hs]; rfl

theorem run_refines (ops : List Op) (s : St) (id : String) :
    view (run ops s) id = spec id ops (view s id) :=
  (List.foldl_hom (fun s => view s id) (fun s op => (step_refines s op id).symm)).symm

/-- **C16 `hub_refines_cell`**: for every history and id, what the hub holds for the id (listed rule,
    generation of its client, generation counter) is what the one-cell specification computes from
    the history: the most recent accepted add of *that id* not followed by its delete or a deleteAll. -/
theorem hub_refines_cell (cfg : KV (List String)) (ops : List Op) (id : String) :
    view (run ops (start cfg)) id = spec id ops := run_refines ops (start cfg) id

theorem step_untouched (s : St) (op : Op) (i : String) (h : touches i op = false) :
    lookup (step s op).clients i = lookup s.clients i ∧ lookup (step s op).rules i = lookup s.rules i := by
  cases op using Op.kinds with
  | refused st d => rw [step_add_reserved]; exact ⟨rfl, rfl⟩
  | add j st d hr =>
    have hj : j ≠ i := by simpa [touches] using h
    rw [step_add s j st d hr]
    exact ⟨lookup_insert_ne _ _ hj, lookup_insert_ne _ _ hj⟩
  | del j hr =>
    have hj : j ≠ i := by simpa [touches, hr] using h
    rw [step_delete s j hr]
    exact ⟨lookup_erase_ne _ hj, lookup_erase_ne _ hj⟩
  | delAll => simp [touches] at h
  | env op he =>
    obtain ⟨dn, ac, e⟩ := step_env s op he
    rw [e]; exact ⟨rfl, rfl⟩

theorem run_untouched (ops : List Op) (s : St) (i : String) (h : ∀ op ∈ ops, touches i op = false) :
    lookup (run ops s).clients i = lookup s.clients i ∧ lookup (run ops s).rules i = lookup s.rules i :=
  List.foldlRecOn (motive := fun t => lookup t.clients i = lookup s.clients i ∧ lookup t.rules i = lookup s.rules i)
    ops step ⟨rfl, rfl⟩ (fun t ht op hop =>
      have h1 := step_untouched t op i (h op hop)
      ⟨h1.1.trans ht.1, h1.2.trans ht.2⟩)

/-- what is held for an id is decided by the last operation that touches it -/
theorem run_split_untouched (s0 : St) (pre post : List Op) (op : Op) (i : String)
    (hpost : ∀ o ∈ post, touches i o = false) :
    lookup (run (pre ++ op :: post) s0).clients i = lookup (step (run pre s0) op).clients i ∧
    lookup (run (pre ++ op :: post) s0).rules i = lookup (step (run pre s0) op).rules i := by
  rw [run_append, run_cons]
  exact run_untouched post _ i hpost

/-- **C16 `live_is_latest_rule`**: if the history is `pre`, then an accepted add of id `i`
    (stream `st`, destination `d`), then operations none of which adds/deletes `i` or deletes all,
    the live client of `i` is exactly the generation that add created (the first unused number at
    that moment), connected to `d` for stream `st`, and the listed rule is that rule.
    Conversely a live client always stems from such an add (`hub_refines_cell`). -/
theorem live_is_latest_rule (cfg : KV (List String)) (pre post : List Op) (i : String) (st : Stream) (d : Dest)
    (hi : i ≠ reserved) (hpost : ∀ op ∈ post, touches i op = false) :
    let s := run (pre ++ .add i st d :: post) (start cfg)
    lookup s.clients i = some ⟨(run pre (start cfg)).nextGen, d, st⟩ ∧
    lookup s.rules i = some ⟨st, d⟩ := by
  intro s
  have h := run_split_untouched (start cfg) pre post (.add i st d) i hpost
  rw [h.1, h.2, step_add _ i st d hi]
  simp

/-- and when the most recent operation touching `i` is its delete or a deleteAll, nothing is live
    or listed for `i` -/
theorem nothing_live_after_delete (cfg : KV (List String)) (pre post : List Op) (i j : String)
    (hj : j = i ∨ j = reserved) (hpost : ∀ op ∈ post, touches i op = false) :
    let s := run (pre ++ .delete j :: post) (start cfg)
    lookup s.clients i = none ∧ lookup s.rules i = none := by
  intro s
  have h := run_split_untouched (start cfg) pre post (.delete j) i hpost
  rw [h.1, h.2]
  by_cases hr : j = reserved
  · subst hr; rw [step_deleteAll]; exact ⟨rfl, rfl⟩
  · have hji : j = i := hj.resolve_right hr
    subst hji
    rw [step_delete _ j hr]
    simp

/-- **C16 `live_matches_rule`**: an id has a live client iff it has a listed rule, and the client's
    destination and stream are the rule's. -/
theorem live_matches_rule (cfg : KV (List String)) (ops : List Op) (id : String) :
    lookup (run ops (start cfg)).rules id =
      (lookup (run ops (start cfg)).clients id).map (fun c => (⟨c.stream, c.dest⟩ : Rule)) :=
  (inv_run cfg ops).agree id

theorem mem_deliveredCl (s : St) (nd : NoDupKeys s.clients) (topic : String) (snd : Option Dest) (c : Cl) :
    c ∈ deliveredCl s topic snd ↔ (∃ id, lookup s.clients id = some c) ∧ wants s.cfg topic snd c = true :=
  mem_filter_vals s.clients nd (wants s.cfg topic snd) c

theorem deliveriesCl_live (s : St) (nd : NoDupKeys s.clients) (op : Op) (c : Cl)
    (h : c ∈ deliveriesCl s op) : ∃ id, lookup s.clients id = some c := by
  cases op with
  | bcast t snd => exact ((mem_deliveredCl s nd t snd c).mp h).1
  | inject d =>
    simp only [deliveriesCl, List.mem_flatMap] at h
    obtain ⟨src, _, hc⟩ := h
    exact ((mem_deliveredCl s nd _ _ c).mp hc).1
  | _ => cases h

theorem step_cancelled_mono (s : St) (op : Op) (g : Gen) (h : g ∈ s.cancelled) :
    g ∈ (step s op).cancelled := by
  cases op using Op.kinds with
  | refused st d => rw [step_add_reserved]; exact h
  | add id st d hid => rw [step_add s id st d hid]; exact (mem_cancelOld s id g).mpr (Or.inl h)
  | del id hid => rw [step_delete s id hid]; exact (mem_cancelOld s id g).mpr (Or.inl h)
  | delAll => rw [step_deleteAll]; exact List.mem_append.mpr (Or.inr h)
  | env op he =>
    obtain ⟨dn, ac, e⟩ := step_env s op he
    rw [e]; exact h

theorem run_cancelled_mono (ops : List Op) (s : St) (g : Gen) (h : g ∈ s.cancelled) :
    g ∈ (run ops s).cancelled :=
  List.foldlRecOn ops step h (fun t ht op _ => step_cancelled_mono t op g ht)

/-- `op` replaces, deletes or delete-alls the rule with id `i` -/
def Supersedes (op : Op) (i : String) : Prop :=
  (∃ st d, op = .add i st d ∧ i ≠ reserved) ∨ op = .delete i ∨ op = .delete reserved

theorem supersede_cancels (s : St) (hI : Inv s) (op : Op) (i : String) (c : Cl)
    (hlive : lookup s.clients i = some c) (hop : Supersedes op i) : c.gen ∈ (step s op).cancelled := by
  rcases hop with ⟨st, d, e, hi⟩ | e | e
  · subst e; rw [step_add s i st d hi]
    exact (mem_cancelOld s i _).mpr (Or.inr ⟨c, hlive, rfl⟩)
  · subst e
    by_cases hi : i = reserved
    · subst hi; rw [hI.resv] at hlive; cases hlive
    · rw [step_delete s i hi]
      exact (mem_cancelOld s i _).mpr (Or.inr ⟨c, hlive, rfl⟩)
  · subst e; rw [step_deleteAll]
    exact List.mem_append.mpr (Or.inl ((mem_gens _ hI.ndc _).mpr ⟨i, c, hlive, rfl⟩))

/-- **C16 `nothing_after_supersede`**: let `c` be the live client of id `i` after `pre`, and let `op`
    replace / delete / delete-all it.  Then after any further operations `post`, the old generation
    is not in the delivered-to set of the next operation `b`, whatever it is (a broadcast on any
    topic from any sender, or a message coming in from any destination) — i.e. no message whose
    hand-off to the hub starts after `op` is handed to the old generation — and the old generation
    is not a live client (owns no socket) in any later state. -/
theorem nothing_after_supersede (cfg : KV (List String)) (pre post : List Op) (op b : Op) (i : String) (c : Cl)
    (hlive : lookup (run pre (start cfg)).clients i = some c) (hop : Supersedes op i) :
    let s := run (pre ++ op :: post) (start cfg)
    c.gen ∉ deliveries s b ∧ c.gen ∉ gens s.clients ∧ c.gen ∈ s.cancelled := by
  intro s
  have hI : Inv s := inv_run cfg _
  have hIp : Inv (run pre (start cfg)) := inv_run cfg pre
  have hc : c.gen ∈ s.cancelled := by
    simp only [s, run_append, run_cons]
    exact run_cancelled_mono post _ _ (supersede_cancels _ hIp op i c hlive hop)
  refine ⟨?_, ?_, hc⟩
  · intro hd
    obtain ⟨c', hc', e⟩ := List.mem_map.mp hd
    obtain ⟨id, hl⟩ := deliveriesCl_live s hI.ndc b c' hc'
    exact hI.liveNC id c' hl (e ▸ hc)
  · intro hg
    obtain ⟨id, c', hl, e⟩ := (mem_gens _ hI.ndc _).mp hg
    exact hI.liveNC id c' hl (e ▸ hc)

/-- sockets exist only for live clients: the destinations at which a message arrives are those
    of live, delivered-to clients whose destination is accepting -/
theorem received_sub (s : St) (op : Op) (d : Dest) (h : d ∈ received s op) :
    ∃ c, c ∈ deliveriesCl s op ∧ c.dest = d ∧ isUp s d = true := by
  unfold received at h
  obtain ⟨c, hc, e⟩ := List.mem_map.mp h
  rw [List.mem_filter] at hc
  exact ⟨c, hc.1, e, e ▸ hc.2⟩

/-- `op` is an add of id `i` (accepted or refused) or the delete of the single id `i` -/
def Targets (op : Op) (i : String) : Prop :=
  (∃ st d, op = .add i st d) ∨ (op = .delete i ∧ i ≠ reserved)

theorem targets_untouched (op : Op) (i j : String) (h : Targets op i) (hij : j ≠ i) :
    touches j op = false := by
  rcases h with ⟨st, d, rfl⟩ | ⟨rfl, hi⟩
  · exact beq_false_of_ne (Ne.symm hij)
  · exact Bool.or_eq_false_iff.2 ⟨beq_false_of_ne (Ne.symm hij), beq_false_of_ne hi⟩

theorem mem_delivered_live (s : St) (hI : Inv s) (j : String) (c : Cl) (hl : lookup s.clients j = some c)
    (topic : String) (snd : Option Dest) :
    c.gen ∈ delivered s topic snd ↔ wants s.cfg topic snd c = true := by
  unfold delivered
  rw [List.mem_map]
  constructor
  · rintro ⟨c', hc', e⟩
    obtain ⟨⟨id, hl'⟩, hw⟩ := (mem_deliveredCl s hI.ndc topic snd c').mp hc'
    have hid : id = j := hI.inj id j c' c hl' hl e
    subst hid
    rw [hl] at hl'
    cases hl'
    exact hw
  · intro hw
    exact ⟨c, (mem_deliveredCl s hI.ndc topic snd c).mpr ⟨⟨j, hl⟩, hw⟩, rfl⟩

/-- **C16 `others_keep_flowing`** (frame): an add / replace / delete of id `i` leaves every other id `j`
    alone: same listed rule, same live client (same generation, so the same socket), that generation
    is not cancelled by the operation, destinations' up/down state is untouched, and for every topic and sender the
    client of `j` is in the delivered-to set after the operation iff it was before. -/
theorem others_keep_flowing (cfg : KV (List String)) (ops : List Op) (op : Op) (i j : String)
    (h : Targets op i) (hij : j ≠ i) :
    let s := run ops (start cfg)
    let s' := step s op
    lookup s'.rules j = lookup s.rules j ∧
    lookup s'.clients j = lookup s.clients j ∧
    s'.downs = s.downs ∧
    (∀ c, lookup s.clients j = some c →
      c.gen ∉ s'.cancelled ∧
      ∀ topic snd, (c.gen ∈ delivered s' topic snd ↔ c.gen ∈ delivered s topic snd)) := by
  intro s s'
  have hI : Inv s := inv_run cfg ops
  have hI' : Inv s' := step_inv s op hI
  have hu := step_untouched s op j (targets_untouched op i j h hij)
  have frame : s'.downs = s.downs ∧ s'.cfg = s.cfg := by
    rcases h with ⟨st, d, e⟩ | ⟨e, hi⟩
    · subst e; simp only [s', step]; split <;> exact ⟨rfl, rfl⟩
    · subst e; simp only [s', step]; split <;> exact ⟨rfl, rfl⟩
  refine ⟨hu.2, hu.1, frame.1, ?_⟩
  · intro c hl
    have hl' : lookup s'.clients j = some c := hu.1.trans hl
    refine ⟨hI'.liveNC j c hl', ?_⟩
    intro topic snd
    rw [mem_delivered_live s' hI' j c hl' topic snd, mem_delivered_live s hI j c hl topic snd, frame.2]

/-- the per-id "added − deleted" specification of the listing alone -/
def listSpecStep (id : String) (r : Option Rule) : Op → Option Rule
  | .add i st d => if i ≠ reserved ∧ i = id then some ⟨st, d⟩ else r
  | .delete i => if i = reserved ∨ i = id then none else r
  | _ => r

def listSpec (id : String) (ops : List Op) : Option Rule := ops.foldl (listSpecStep id) none

theorem specStep_rule (id : String) (c : Cell) (op : Op) :
    (specStep id c op).rule = listSpecStep id c.rule op := by
  cases op with
  | add i st d =>
    by_cases hi : i = reserved
    · simp [specStep, listSpecStep, hi]
    · by_cases hk : i = id
      · subst hk; simp [specStep, listSpecStep, hi]
      · simp [specStep, listSpecStep, hi, hk]
  | delete i =>
    by_cases hk : i = reserved ∨ i = id <;> simp [specStep, listSpecStep, hk]
  | _ => rfl

/-- **C16 `listing_exact`**: for every history and id, the rule listed for the id is the one given by
    the latest accepted add of that id unless its delete or a deleteAll came later ("added − deleted");
    the id is a key of the listing exactly then; and the listing never holds an id twice. -/
theorem listing_exact (cfg : KV (List String)) (ops : List Op) (id : String) :
    let s := run ops (start cfg)
    lookup s.rules id = listSpec id ops ∧
    (id ∈ keys s.rules ↔ (listSpec id ops).isSome = true) ∧
    NoDupKeys s.rules := by
  intro s
  have h1 : lookup s.rules id = listSpec id ops :=
    (congrArg Cell.rule (hub_refines_cell cfg ops id)).trans
      (List.foldl_hom Cell.rule fun c op => (specStep_rule id c op).symm).symm
  refine ⟨h1, ?_, (inv_run cfg ops).ndr⟩
  rw [mem_keys_iff_has, has, h1]

/-- **C16 `reserved_id_unreachable`**: the reserved delete-all id is never a key of the rule listing
    nor of the client map, whatever is added. -/
theorem reserved_id_unreachable (cfg : KV (List String)) (ops : List Op) :
    let s := run ops (start cfg)
    lookup s.rules reserved = none ∧ lookup s.clients reserved = none ∧
    reserved ∉ keys s.rules ∧ reserved ∉ keys s.clients := by
  intro s
  have hI : Inv s := inv_run cfg ops
  have h2 : lookup s.clients reserved = none := hI.resv
  have h1 : lookup s.rules reserved = none := by rw [hI.agree, h2]; rfl
  refine ⟨h1, h2, ?_, ?_⟩
  · rw [mem_keys_iff_has, has, h1]; simp
  · rw [mem_keys_iff_has, has, h2]; simp

/-- **C16 `id_taken_verbatim`**: ids are compared and stored as given, for EVERY id string: after any history, an
    add of any id other than exactly the string `"deleteAll"` -- `"/deleteAll"`, `" deleteAll"`, `"DeleteAll"`, the
    empty id, ... included -- is stored and listed under exactly that id; the entry (rule and client) of every other
    id string `j ≠ i` -- ids differing from `i` only by blanks, a slash or case included -- is what it was; and
    still nothing is held under the reserved id.  (No canonicalisation on either side of the reserved-id guard.) -/
theorem id_taken_verbatim (cfg : KV (List String)) (ops : List Op) (i : String) (st : Stream) (d : Dest)
    (hi : i ≠ reserved) :
    let s := run ops (start cfg)
    let s' := step s (.add i st d)
    lookup s'.rules i = some ⟨st, d⟩ ∧
    (lookup s'.clients i).map (fun c => (c.dest, c.stream)) = some (d, st) ∧
    (∀ j, j ≠ i → lookup s'.rules j = lookup s.rules j ∧ lookup s'.clients j = lookup s.clients j) ∧
    lookup s'.rules reserved = none ∧ lookup s'.clients reserved = none := by
  intro s s'
  have hun : ∀ j, j ≠ i → lookup s'.rules j = lookup s.rules j ∧ lookup s'.clients j = lookup s.clients j :=
    fun j hj =>
      have h := others_keep_flowing cfg ops (.add i st d) i j (.inl ⟨st, d, rfl⟩) hj
      ⟨h.1, h.2.1⟩
  have hres := reserved_id_unreachable cfg ops
  have hr := hun reserved (fun h => hi h.symm)
  refine ⟨?_, ?_, hun, hr.1.trans hres.1, hr.2.trans hres.2.1⟩
  · simp only [s', step_add s i st d hi]; simp
  · simp only [s', step_add s i st d hi]; simp

/-- and a delete of any id other than exactly `"deleteAll"` removes that id's entry only -/
theorem delete_taken_verbatim (cfg : KV (List String)) (ops : List Op) (i : String) (hi : i ≠ reserved) :
    let s := run ops (start cfg)
    let s' := step s (.delete i)
    lookup s'.rules i = none ∧ lookup s'.clients i = none ∧
    (∀ j, j ≠ i → lookup s'.rules j = lookup s.rules j ∧ lookup s'.clients j = lookup s.clients j) := by
  intro s s'
  refine ⟨?_, ?_, ?_⟩
  · simp only [s', step_delete s i hi]; simp
  · simp only [s', step_delete s i hi]; simp
  · intro j hj
    have h := others_keep_flowing cfg ops (.delete i) i j (.inr ⟨rfl, hi⟩) hj
    exact ⟨h.1, h.2.1⟩

theorem mem_clientsOn (s : St) (nd : NoDupKeys s.clients) (d : Dest) (c : Cl) :
    c ∈ clientsOn s d ↔ (∃ id, lookup s.clients id = some c) ∧ c.dest = d := by
  rw [← beq_iff_eq]; exact mem_filter_vals s.clients nd (fun c => c.dest == d) c

theorem dials_add (s : St) (id : String) (st : Stream) (d : Dest) (c : Cl) (h : c ∈ dials s (.add id st d)) :
    c = ⟨s.nextGen, d, st⟩ := by
  simp only [dials] at h
  split at h
  · cases h
  · split at h
    · exact List.mem_singleton.mp h
    · cases h

theorem dials_live_or_new (s : St) (nd : NoDupKeys s.clients) (op : Op) (c : Cl) (h : c ∈ dials s op) :
    (∃ id, lookup s.clients id = some c) ∨ c.gen = s.nextGen := by
  cases op with
  | add id st d => exact Or.inr (dials_add s id st d c h ▸ rfl)
  | up d | drop d =>
    simp only [dials] at h
    split at h
    · exact Or.inl ((mem_clientsOn s nd d c).mp h).1
    · cases h
  | _ => cases h

theorem inv_not_dials (s : St) (hI : Inv s) (op : Op) (g : Gen) (hg : g ∈ s.cancelled) :
    g ∉ (dials s op).map (·.gen) := by
  intro hm
  obtain ⟨c, hc, e⟩ := List.mem_map.mp hm
  rcases dials_live_or_new s hI.ndc op c hc with ⟨id, hl⟩ | hn
  · exact hI.liveNC id c hl (e ▸ hg)
  · have hlt : g < s.nextGen := hI.cancLt g hg
    rw [← e, hn] at hlt
    exact Nat.lt_irrefl _ hlt

/-- **C16 `cancelled_never_dials`**: after every history, a generation whose context has been cancelled
    (its rule was replaced, deleted, or removed by a delete-all) is not among those that open a
    connection because of the next operation, WHATEVER that operation is: its old destination
    coming up again, dropping its connections, a new rule for the same or another id and the same
    destination, or real time passing (`idle`: the back-off sleep it was in runs out). -/
theorem cancelled_never_dials (cfg : KV (List String)) (ops : List Op) (op : Op) (g : Gen)
    (hg : g ∈ (run ops (start cfg)).cancelled) : g ∉ (dials (run ops (start cfg)) op).map (·.gen) :=
  inv_not_dials _ (inv_run cfg ops) op g hg

/-- **C16 `superseded_never_connects`** (history form): let `c` be the live client of id `i` after `pre`
    and let `op` replace / delete / delete-all it.  Then `c`'s generation opens no connection because of
    `op` itself, and after ANY further operations `post` -- its destination going down and up any number
    of times, time passing, other rules coming and going -- it opens no connection because of the next
    operation `b` either.  (With `accepts_count_dials`: the connections a destination accepts are those
    of generations in force at the time.) -/
theorem superseded_never_connects (cfg : KV (List String)) (pre post : List Op) (op b : Op) (i : String) (c : Cl)
    (hlive : lookup (run pre (start cfg)).clients i = some c) (hop : Supersedes op i) :
    c.gen ∉ (dials (run pre (start cfg)) op).map (·.gen) ∧
    c.gen ∉ (dials (run (pre ++ op :: post) (start cfg)) b).map (·.gen) := by
  have hIp : Inv (run pre (start cfg)) := inv_run cfg pre
  constructor
  · intro hm
    obtain ⟨c', hc', e⟩ := List.mem_map.mp hm
    rcases hop with ⟨st, d, rfl, hi⟩ | rfl | rfl
    · rw [dials_add _ _ _ _ c' hc'] at e
      exact Nat.ne_of_lt (hIp.fresh i c hlive) e.symm
    · cases hc'
    · cases hc'
  · exact cancelled_never_dials cfg _ b _ (nothing_after_supersede cfg pre post op b i c hlive hop).2.2

theorem getD_bump (m : KV Nat) (d d' : Dest) (n : Nat) :
    (lookup (bump m d n) d').getD 0 = (lookup m d').getD 0 + (if d' = d then n else 0) := by
  unfold bump
  by_cases hn : n = 0
  · simp [hn]
  · simp only [hn, if_false]
    by_cases hd : d' = d
    · subst hd; simp
    · rw [lookup_insert_ne _ _ (Ne.symm hd)]; simp [hd]

theorem clientsOn_length (s : St) (d : Dest) : (clientsOn s d).length = liveOn s d := by
  simp [clientsOn, liveOn]

theorem filter_dest_length (l : List Cl) (x d : Dest) (h : ∀ c ∈ l, c.dest = x) :
    (l.filter (fun c => c.dest == d)).length = if d = x then l.length else 0 := by
  by_cases hd : d = x
  · rw [if_pos hd, List.filter_eq_self.mpr]
    intro c hc
    rw [h c hc, hd]
    exact beq_self_eq_true x
  · rw [if_neg hd, List.length_eq_zero_iff, List.filter_eq_nil_iff]
    intro c hc
    rw [h c hc, beq_iff_eq]
    exact Ne.symm hd

theorem clientsOn_dest (s : St) (d : Dest) (c : Cl) (hc : c ∈ clientsOn s d) : c.dest = d := by
  simp only [clientsOn, List.mem_map, List.mem_filter, beq_iff_eq] at hc
  obtain ⟨p, ⟨_, hp⟩, rfl⟩ := hc
  exact hp

/-- **C16 `accepts_count_dials`**: the number of connections a destination has accepted -- the ghost
    counter the driver prints and the correspondence run compares with what the recording destination
    servers counted -- grows with every operation by exactly the number of `dials` to it. -/
theorem accepts_count_dials (s : St) (op : Op) (d : Dest) :
    (lookup (step s op).accepts d).getD 0 =
      (lookup s.accepts d).getD 0 + ((dials s op).filter (fun c => c.dest == d)).length := by
  cases op with
  | add id st x =>
    by_cases hid : id = reserved
    · subst hid
      rw [step_add_reserved, dials, if_pos rfl]
      rfl
    · rw [step_add s id st x hid, dials, if_neg hid]
      by_cases hu : isUp s x = true
      · simp only [if_pos hu]
        rw [getD_bump, filter_dest_length _ x d fun c hc => List.mem_singleton.1 hc ▸ rfl]
        rfl
      · simp only [if_neg hu]
        rfl
  | up x | drop x =>
    simp only [step, dials]
    split
    · rw [getD_bump, filter_dest_length _ x d (clientsOn_dest s x), clientsOn_length]
    · rfl
  | delete _ | down _ => simp only [step, dials]; split <;> rfl
  | bcast _ _ | inject _ | idle => rfl

/-- **C16 `idle_is_silent`**: real time passing changes nothing the hub holds, makes nobody dial and
    hands nobody a message: a client whose back-off sleep ends finds either a live context and a
    destination that still refuses, or a cancelled context (and returns). -/
theorem idle_is_silent (s : St) : step s .idle = s ∧ dials s .idle = [] ∧ deliveries s .idle = [] :=
  ⟨rfl, rfl, rfl⟩

/-! ### non-vacuity: one concrete history exercising every clause -/

def demoCfg : KV (List String) := [("stream/a", ["fa"]), ("stream/b", ["fa", "fb"])]

def demoOps : List Op :=
  [ .add "r1" "stream/a" "d1",        -- gen 0
    .add "r2" "stream/b" "d2",        -- gen 1
    .add "deleteAll" "plain" "dx",    -- refused
    .add "" "plain" "d3",             -- gen 2, the empty id is an ordinary key
    .add "r1" "stream/b" "d4",        -- gen 3 replaces gen 0
    .down "d2",
    .add "r3" "plain" "d3",           -- gen 4 shares destination d3 with id ""
    .delete "r2" ]                    -- cancels gen 1

example :
    let s := run demoOps (start demoCfg)
    s.cancelled = [1, 0] ∧
    gens s.clients = [4, 3, 2] ∧
    (s.rules.map (·.1)) = ["r3", "r1", ""] ∧
    delivered s "fa" none = [3] ∧                         -- the replaced generation 0 gets nothing
    delivered s "fb" none = [3] ∧
    delivered s "plain" none = [4, 2] ∧
    delivered s "plain" (some "d3") = [] ∧                 -- same Name as the sender: skipped
    deliveries s (.inject "d3") = [] ∧
    received (step s (.add "r2" "plain" "d2")) (.bcast "plain" none) = ["d3", "d3"] ∧   -- d2 is down
    deliveries (step s (.add "r2" "plain" "d5")) (.inject "d3") = [5, 5] ∧              -- from both sockets to d3
    orphans s = [] := by
  decide +kernel

/-- near-reserved ids and whitespace twins are ordinary, pairwise distinct keys; only the exact string is refused;
    deleting `" r1"` leaves `"r1"`; deleting `"/deleteAll"` is not a delete-all -/
example :
    let s := run [.add "/deleteAll" "plain" "d1", .add " deleteAll" "plain" "d2", .add "deleteAll" "plain" "d3",
                  .add "DeleteAll" "plain" "d4", .add "r1" "plain" "d5", .add " r1" "plain" "d6",
                  .add "" "plain" "d7", .add " " "plain" "d8", .add "deleteAll\n" "plain" "d9",
                  .delete " r1", .delete "/deleteAll"] (start demoCfg)
    (s.rules.map (·.1)) = ["deleteAll\n", " ", "", "r1", "DeleteAll", " deleteAll"] ∧
    gens s.clients = [7, 6, 5, 3, 2, 1] ∧ s.cancelled = [0, 4] ∧
    lookup s.rules reserved = none ∧ orphans s = [] := by
  decide +kernel

/-- rules whose destination is down, removed / replaced / kept while down; then the destinations come up and
    time passes: only the generations in force dial (r3 kept: 2; r2's replacement: 3), d1 never sees a connection -/
example :
    let pre : List Op := [.down "d1", .down "d2", .down "d3", .add "r1" "plain" "d1", .add "r2" "plain" "d2",
                          .add "r3" "plain" "d3", .bcast "plain" none, .delete "r1", .add "r2" "plain" "d2"]
    let s := run pre (start demoCfg)
    s.cancelled = [1, 0] ∧ gens s.clients = [3, 2] ∧
    (dials s (.up "d1")).map (·.gen) = [] ∧ (dials s (.up "d2")).map (·.gen) = [3] ∧
    (dials s (.up "d3")).map (·.gen) = [2] ∧ dials s .idle = [] ∧
    (run (pre ++ [.up "d1", .up "d2", .up "d3", .idle, .drop "d1", .drop "d2"]) (start demoCfg)).accepts
      = [("d2", 2), ("d3", 1)] := by
  decide +kernel

example : (run (demoOps ++ [.delete "deleteAll"]) (start demoCfg)).cancelled = [4, 3, 2, 1, 0] ∧
    (run (demoOps ++ [.delete "deleteAll"]) (start demoCfg)).rules = [] := by decide +kernel

end Rwc
