import Relay.Lemmas.RelayStep

/-!
# C01 over whole histories — provenance of every code and of every joined connection

For every history of relay operations (sessions, denies, allows, admissions, traffic, disconnects, prunes,
sweeps, clock moves, in any order): every connection token ever minted, every code in the store and every
connection joined to the hub traces back to a session request that the access API GRANTED to a bearer
token which AT THAT MOMENT was fully valid for the requested topic (HMAC-signed with the secret, inside its
nbf/exp window, addressed to this relay, complete in its claims, naming exactly that topic); and the joined
connection carries that token's topic, booking id, scopes and expiry.
-/

namespace Relay
open Access

/-- what is recorded about grant `g = (bearer, id, time)` justifies connection token `pt` -/
def GrantOK (cfg : Config) (g : Bearer × String × Int) (pt : PTok) : Prop :=
  (∃ s0 : St, s0.now = g.2.2 ∧ FullyValid cfg s0 g.1 g.2.1) ∧
  pt.topic = g.2.1 ∧ pt.scopes = g.1.scopes ∧ pt.bid = g.1.bid ∧ pt.exp = g.1.exp.getD 0 ∧ pt.aud = [cfg.target]

structure ProvInv (cfg : Config) (s : St) : Prop where
  len : s.ptoks.length = s.grants.length
  grant : ∀ (k : Nat) (pt : PTok), s.ptoks[k]? = some pt → ∃ g, s.grants[k]? = some g ∧ GrantOK cfg g pt
  codes : ∀ e ∈ s.codes.entries, ∃ pt, s.ptoks[e.tok]? = some pt ∧ pt.bid = e.bid
  members : ∀ c ∈ s.hub.members, ∃ i ∈ s.info, i.name = c.name ∧
      ∃ (k : Nat) (pt : PTok), s.ptoks[k]? = some pt ∧ c.topic = pt.topic ∧ c.bid = pt.bid ∧ i.scopes = pt.scopes ∧ i.exp = pt.exp

theorem prov_eff (cfg : Config) (s s' : St) (hI : ProvInv cfg s) (h : Eff cfg s s') : ProvInv cfg s' := by
  -- all effects but `grant` and `join` leave tokens, grants and admission records alone, keep or drop members
  -- as they are, and only shrink the code store
  have shrink : ∀ s' : St, s'.ptoks = s.ptoks → s'.grants = s.grants → s'.info = s.info →
      (∀ c ∈ s'.hub.members, ∃ c0 ∈ s.hub.members, Hub.Same c c0) →
      (∀ e ∈ s'.codes.entries, e ∈ s.codes.entries) → ProvInv cfg s' := by
    intro s' h1 h2 h3 h4 h5
    refine ⟨by rw [h1, h2]; exact hI.len, by rw [h1, h2]; exact hI.grant, ?_, ?_⟩
    · intro e he; rw [h1]; exact hI.codes e (h5 e he)
    · intro c hc
      obtain ⟨c0, hc0, hs⟩ := h4 c hc
      obtain ⟨i, hi, hin, k, pt, hpt, g1, g2, g3, g4⟩ := hI.members c0 hc0
      exact ⟨i, by rw [h3]; exact hi, by rw [hin, hs.name], k, pt, by rw [h1]; exact hpt, by rw [hs.topic, g1],
        by rw [hs.bid, g2], g3, g4⟩
  have keep : ∀ c ∈ s.hub.members, ∃ c0 ∈ s.hub.members, Hub.Same c c0 := fun c hc => ⟨c, hc, .rfl⟩
  cases h with
  | same => exact hI
  | tick t | allow k e | prune => exact shrink _ rfl rfl rfl keep (fun _ he => he)
  | grant b id hfv =>
    -- old indices stay below the length of the token table; the new token sits at that length
    have old : ∀ {α : Type} {l : List α} {k : Nat} {x : α} (l' : List α), l[k]? = some x → (l ++ l')[k]? = some x := by
      intro α l k x l' h
      rw [List.getElem?_append_left (List.getElem?_eq_some_iff.1 h).1]; exact h
    refine ⟨by simp [sessionGrant, hI.len], ?_, ?_, ?_⟩
    · intro k pt hk
      simp only [sessionGrant] at hk ⊢
      have hlt := (List.getElem?_eq_some_iff.1 hk).1
      rw [List.length_append, List.length_singleton] at hlt
      rcases Nat.lt_succ_iff_lt_or_eq.1 hlt with hlt | rfl
      · rw [List.getElem?_append_left hlt] at hk
        obtain ⟨g, hg, hok⟩ := hI.grant k pt hk
        exact ⟨g, old _ hg, hok⟩
      · rw [List.getElem?_concat_length] at hk
        cases hk
        exact ⟨(b, id, s.now), hI.len ▸ List.getElem?_concat_length, ⟨s, rfl, hfv⟩, rfl, rfl, rfl, rfl, rfl⟩
    · intro e he
      simp only [sessionGrant, TtlCode.step, List.mem_cons] at he ⊢
      rcases he with he | he
      · subst he
        exact ⟨_, List.getElem?_concat_length, rfl⟩
      · obtain ⟨pt, hpt, hb⟩ := hI.codes e he
        exact ⟨pt, old _ hpt, hb⟩
    · intro c hc
      obtain ⟨i, hi, hin, k, pt, hpt, h1, h2, h3, h4⟩ := hI.members c hc
      exact ⟨i, hi, hin, k, pt, old _ hpt, h1, h2, h3, h4⟩
  | deny k e =>
    exact shrink _ rfl rfl rfl (fun c hc => keep c (mem_denyAct_members.1 hc).1) fun en hen => (mem_denyAct_entries.1 hen).1
  | spend c => exact shrink _ rfl rfl rfl keep (TtlCode.exchange_entries_sub s.codes c)
  | join path c e pt ua remote hf hexp hpt hA =>
    refine ⟨hI.len, hI.grant, fun en hen => hI.codes en (TtlCode.exchange_entries_sub s.codes c en hen), ?_⟩
    intro m hm
    simp only [afterJoin, Hub.step, List.mem_append, List.mem_singleton] at hm
    rcases hm with hm | hm
    · obtain ⟨i, hi, hin, k, pt', hpt', h1, h2, h3, h4⟩ := hI.members m hm
      exact ⟨i, List.mem_append_left _ hi, hin, k, pt', hpt', h1, h2, h3, h4⟩
    · subst hm
      exact ⟨_, List.mem_concat_self, rfl, e.tok, pt, hpt, rfl, rfl, rfl, rfl⟩
  | hub ev hreg => exact shrink _ rfl rfl rfl (Hub.step_members_kept s.hub ev hreg) (fun _ he => he)
  | sweep =>
    exact shrink _ rfl rfl rfl keep fun _ => sweep_entries_sub

theorem prov_run (cfg : Config) (ops : List Op) : ProvInv cfg (run cfg ops) :=
  run_induction cfg ⟨rfl, by simp, by simp, by simp⟩ (prov_eff cfg) ops

/-- **C01 over histories — joined connections**: after any history, every connection joined to the hub was
    admitted on a code minted by a session request that the access API granted, at some moment `t`, to a
    bearer `b` that was then fully valid for exactly the topic the connection is filed under; and the
    connection carries `b`'s booking id, scopes and expiry. -/
theorem member_provenance (cfg : Config) (ops : List Op) :
    ∀ c ∈ (run cfg ops).hub.members, ∃ b t s0 i,
      s0.now = t ∧ FullyValid cfg s0 b c.topic ∧
      i ∈ (run cfg ops).info ∧ i.name = c.name ∧ c.bid = b.bid ∧ i.scopes = b.scopes ∧ i.exp = b.exp.getD 0 := by
  intro c hc
  have hI := prov_run cfg ops
  obtain ⟨i, hi, hin, k, pt, hpt, h1, h2, h3, h4⟩ := hI.members c hc
  obtain ⟨g, _, ⟨s0, hs0, hfv⟩, g1, g2, g3, g4, _⟩ := hI.grant k pt hpt
  refine ⟨g.1, g.2.2, s0, i, hs0, ?_, hi, hin, by rw [h2, g3], by rw [h3, g2], by rw [h4, g4]⟩
  rw [h1, g1]; exact hfv

/-- **C01 over histories — codes**: every code in the store stands for a connection token minted by a
    granted session whose bearer was fully valid at that moment, with the same booking id. -/
theorem code_provenance (cfg : Config) (ops : List Op) :
    ∀ e ∈ (run cfg ops).codes.entries, ∃ pt b id t s0,
      (run cfg ops).ptoks[e.tok]? = some pt ∧ pt.bid = e.bid ∧ pt.topic = id ∧ s0.now = t ∧ FullyValid cfg s0 b id := by
  intro e he
  have hI := prov_run cfg ops
  obtain ⟨pt, hpt, hb⟩ := hI.codes e he
  obtain ⟨g, _, ⟨s0, hs0, hfv⟩, g1, _⟩ := hI.grant e.tok pt hpt
  exact ⟨pt, g.1, g.2.1, g.2.2, s0, hpt, hb, g1, hs0, hfv⟩

end Relay
