import Relay.Model.VwApi
import Relay.Lemmas.VwJson

/-!
# C18 — the host's control interfaces answer every command and survive every input

All theorems quantify over every state, every decoded command / request and every sequence.
`marshal : JVal → String` stands for `json.Marshal`; the only thing assumed about it is
`MarshalOk marshal` (it returns a valid JSON text for the string-only values the API gives it).
Everything the Go code builds *itself* (byte literals, the `{"feeds":` … `}` concatenation) is
proved valid by construction against the grammar in `Relay.Lemmas.VwJson`.

* `api_total_valid`        no panic ∧ reply valid JSON ∧ (error → rules unchanged), any state, any command
* `api_loop_reply_valid`   the same for what the `internalAPI` goroutine finally broadcasts
                           (error replies are `json.Marshal(map{"error": …})`)
* `invalid_command_noop`   a command outside the documented grammar is answered with an error, state unchanged
* `handle_err_iff`         exactly which commands are answered with an error
* `invalid_commands_skippable`  dropping all invalid commands from a sequence does not change the final rules
* `apirule_protected`      `Opts.API ≠ ""`: after ANY command sequence the rule `apiRule` exists
* `apirule_intact_without_add`  … and is still `{api, Opts.API, apiRule}` unless a command re-added that id
* `apirule_recreated_by_delete_all`, `no_apirule_without_api_after_delete_all`
* `http_total_valid`, `http_error_noop`   the ten HTTP rule handlers
* `ops_total`              at every point of every interleaving of commands and requests the next one is answered
* `add_without_rule_panics_without_nilcheck`, `apirule_bypass_without_alias`  the theorems are not vacuous:
                           the two un-repaired variants of the dispatcher violate them with a concrete command
-/

namespace VwApi
open KV VwJson

/-- **Assumption about `encoding/json`** (not modelled): `json.Marshal` of the values the control
    API passes to it — all built from strings, string slices and string-keyed maps — yields a JSON text. -/
def MarshalOk (marshal : JVal → String) : Prop := ∀ v, ValidJson (marshal v)

/-- the replies the dispatcher can build: `json.Marshal v`, two byte literals, one concatenation -/
def Reply.built : Reply → Bool
  | .lit s => s == "{\"healthcheck\":\"ok\"}" || s == "{\"deleted\":\"deleteAll\"}"
  | .marshal _ => true
  | .wrap pre _ post => pre == "{\"feeds\":" && post == "}"

theorem lit_deleted_valid : ValidJson "{\"deleted\":\"deleteAll\"}" :=
  validJson_ofList  -- "deleted", "deleteAll"
    (isJson_obj1_str ['d', 'e', 'l', 'e', 't', 'e', 'd'] ['d', 'e', 'l', 'e', 't', 'e', 'A', 'l', 'l']
      (by decide) (by decide))

theorem wrap_feeds_valid (m : String) (hm : ValidJson m) : ValidJson ("{\"feeds\":" ++ m ++ "}") :=
  validJson_wrap_obj1 ['f', 'e', 'e', 'd', 's'] m (by decide) hm  -- "feeds"

theorem built_valid (marshal : JVal → String) (hM : MarshalOk marshal) (r : Reply)
    (h : r.built = true) : ValidJson (r.text marshal) := by
  cases r with
  | lit s =>
    simp only [Reply.built, Bool.or_eq_true, beq_iff_eq] at h
    rcases h with h | h <;> subst h
    · exact lit_healthcheck_valid
    · exact lit_deleted_valid
  | marshal v => exact hM v
  | wrap pre v post =>
    simp only [Reply.built, Bool.and_eq_true, beq_iff_eq] at h
    obtain ⟨h1, h2⟩ := h
    subst h1; subst h2
    exact wrap_feeds_valid _ (hM v)

/-- what every branch of the dispatcher guarantees -/
def Good (st : AppState) (p : AppState × Res) : Prop :=
  (∀ k, p.2 ≠ .panic k) ∧ (∀ r, p.2 = .ok r → r.built = true) ∧ (∀ m, p.2 = .err m → p.1 = st) ∧
  p.1.api = st.api

/-- the command carries a rule that decodes as a destination rule with id `apiRule` -/
def Cmd.carriesApiRule (c : Cmd) : Bool :=
  match c.rule with
  | some rj => (match rj.asDest with | .ok r => r.id == "apiRule" | .error _ => false)
  | none => false

/-- What command `c` can have done to the entry `apiRule` of the destination rules `d` it leaves
    behind: nothing, reset it to the start-up rule (delete-all), or overwrite it with a rule it carries. -/
def ApiRuleStep (st : AppState) (c : Cmd) (d : KV DestRule) : Prop :=
  lookup d "apiRule" = lookup st.dest "apiRule" ∨ lookup d "apiRule" = some (apiRule st.api) ∨
  (c.carriesApiRule = true ∧ has d "apiRule" = true)

/-- `Good` and, with `Opts.API` set, `ApiRuleStep`: one pass over the dispatcher's branches establishes both -/
def GoodStep (st : AppState) (c : Cmd) (p : AppState × Res) : Prop :=
  Good st p ∧ (st.api ≠ "" → ApiRuleStep st c p.1.dest)

theorem goodStep_err {st : AppState} {c : Cmd} {m : String} : GoodStep st c (st, .err m) :=
  ⟨by unfold Good; simp, fun _ => .inl rfl⟩

theorem goodStep_dest {st : AppState} {c : Cmd} {st' : AppState} {r : Reply} (h : r.built = true)
    (ha : st'.api = st.api) (hd : st.api ≠ "" → ApiRuleStep st c st'.dest) :
    GoodStep st c (st', .ok r) :=
  ⟨by unfold Good; simp [h, ha], hd⟩

theorem goodStep_ok {st : AppState} {c : Cmd} {st' : AppState} {r : Reply} (h : r.built = true)
    (ha : st'.api = st.api) (hd : st'.dest = st.dest) : GoodStep st c (st', .ok r) :=
  goodStep_dest h ha fun _ => .inl (by rw [hd])

-- by `beq_self_eq_true`: these are the very literals `built` lists (`rfl` would compare them character by character)
theorem built_healthcheck : Reply.built (.lit "{\"healthcheck\":\"ok\"}") = true := by
  simp only [Reply.built, beq_self_eq_true, Bool.true_or]

theorem built_deleted : Reply.built (.lit "{\"deleted\":\"deleteAll\"}") = true := by
  simp only [Reply.built, beq_self_eq_true, Bool.or_true]

theorem built_feeds (v : JVal) : Reply.built (.wrap "{\"feeds\":" v "}") = true := by
  simp only [Reply.built, beq_self_eq_true, Bool.and_self]

theorem lookup_rwcAdd (m : KV DestRule) (r : DestRule) (k : String) :
    lookup (rwcAdd m r) k = lookup m k ∨ r.id = k ∧ lookup (rwcAdd m r) k = some r := by
  unfold rwcAdd
  split
  · exact .inl rfl
  · by_cases hk : r.id = k
    · exact .inr ⟨hk, hk ▸ lookup_insert_self ..⟩
    · exact .inl (lookup_insert_ne m r hk)

theorem destAdd_good (st : AppState) (c : Cmd) : GoodStep st c (destAdd current st c.rule) := by
  unfold destAdd
  split
  · exact goodStep_err
  · rename_i rj hr
    split
    · exact goodStep_err
    · rename_i r hd
      refine goodStep_dest rfl rfl fun _ => ?_
      rcases lookup_rwcAdd st.dest { r with stream := trimSlash r.stream } "apiRule" with h | ⟨hid, h⟩
      · exact .inl h
      · exact .inr (.inr ⟨by simp only [Cmd.carriesApiRule, hr, hd, beq_iff_eq]; exact hid,
          by rw [has, h]; rfl⟩)

theorem streamAdd_good (st : AppState) (c : Cmd) : GoodStep st c (streamAdd current st c.rule) := by
  unfold streamAdd
  split
  · exact goodStep_err
  · split
    · exact goodStep_err
    · exact goodStep_ok rfl rfl rfl

theorem destDeleteAll_api (st : AppState) : (destDeleteAll st).api = st.api := rfl

theorem destDeleteAll_dest (st : AppState) (hapi : st.api ≠ "") :
    (destDeleteAll st).dest = [("apiRule", apiRule st.api)] := by
  simp [destDeleteAll, hapi, rwcAdd, rwcDelete, apiRule, KV.insert, KV.erase]

theorem destDelete_good (st : AppState) (c : Cmd) : GoodStep st c (destDelete current st c.which) := by
  unfold destDelete
  -- the cases of the Go `switch`, in order.  `which = ""`: bad command
  refine iteInduction (fun _ => goodStep_err) fun _ => ?_
  -- `all`, and `deleteAll` under the alias: delete-all, which puts the start-up rule back
  refine iteInduction (fun _ => ?_) fun hall => ?_
  · exact goodStep_dest built_deleted rfl fun hapi =>
      .inr (.inl (destDeleteAll_dest st hapi ▸ lookup_insert_self [] _ _))
  -- `apiRule` is refused, any other id is erased
  refine iteInduction (fun hne => ?_) fun _ => goodStep_err
  -- `deleteAll` went to the delete-all branch, so the hub erases one id, and not `apiRule`
  have hnd : ¬ c.which = "deleteAll" := fun e => hall (.inr ⟨rfl, e⟩)
  refine goodStep_dest rfl rfl fun _ => .inl ?_
  simp only [rwcDelete, hnd, if_false]
  exact lookup_erase_ne st.dest hne

theorem destList_good (st : AppState) (c : Cmd) : GoodStep st c (destList st c.which) := by
  unfold destList
  split <;> exact goodStep_ok rfl rfl rfl

theorem streamDelete_good (st : AppState) (c : Cmd) : GoodStep st c (streamDelete st c.which) := by
  unfold streamDelete
  split
  · exact goodStep_ok built_deleted rfl rfl
  · exact goodStep_ok rfl rfl rfl

theorem streamList_good (st : AppState) (c : Cmd) : GoodStep st c (streamList st c.which) := by
  unfold streamList
  split
  · exact goodStep_err
  · split
    · exact goodStep_ok rfl rfl rfl
    · exact goodStep_ok (built_feeds _) rfl rfl

/-- the branch of `handleAdminMessage`'s nested `switch` a command reaches -/
inductive Route where
  | bad | health | destAdd | destDelete | destList | streamAdd | streamDelete | streamList

def route (c : Cmd) : Route :=
  if c.decodeErr then .bad
  else if c.verb = "healthcheck" then .health
  else if c.what = "destination" then
    if c.verb = "add" then .destAdd
    else if c.verb = "delete" then .destDelete
    else if c.verb = "list" then .destList
    else .bad
  else if c.what = "stream" then
    if c.verb = "add" then .streamAdd
    else if c.verb = "delete" then .streamDelete
    else if c.verb = "list" then .streamList
    else .bad
  else .bad

/-- what the dispatcher returns on each route: its own two answers, or a handler's result -/
def dispatch (v : Variant) (st : AppState) (c : Cmd) : Route → AppState × Res
  | .bad => (st, .err errBadCommand)
  | .health => (st, .ok (.lit "{\"healthcheck\":\"ok\"}"))
  | .destAdd => destAdd v st c.rule
  | .destDelete => destDelete v st c.which
  | .destList => destList st c.which
  | .streamAdd => streamAdd v st c.rule
  | .streamDelete => streamDelete st c.which
  | .streamList => streamList st c.which

theorem handleV_route (v : Variant) (st : AppState) (c : Cmd) :
    handleV v st c = dispatch v st c (route c) := by
  unfold route
  simp only [apply_ite (dispatch v st c)]
  rfl

theorem handle_goodStep (st : AppState) (c : Cmd) : GoodStep st c (handle st c) := by
  rw [handle, handleV_route]
  cases route c with
  | bad => exact goodStep_err
  | health => exact goodStep_ok built_healthcheck rfl rfl
  | destAdd => exact destAdd_good ..
  | destDelete => exact destDelete_good ..
  | destList => exact destList_good ..
  | streamAdd => exact streamAdd_good ..
  | streamDelete => exact streamDelete_good ..
  | streamList => exact streamList_good ..

theorem handle_good (st : AppState) (c : Cmd) : Good st (handle st c) := (handle_goodStep st c).1

/-- **C18 (i)** `handleAdminMessage` is total, every reply it returns is valid JSON, and a command
    answered with an error leaves all rules as they were — for every state and every decoded command. -/
theorem api_total_valid (marshal : JVal → String) (hM : MarshalOk marshal) (st : AppState) (c : Cmd) :
    (∀ k, (handle st c).2 ≠ .panic k) ∧
    (∀ r, (handle st c).2 = .ok r → ValidJson (r.text marshal)) ∧
    (∀ m, (handle st c).2 = .err m → (handle st c).1 = st) := by
  obtain ⟨h1, h2, h3, _⟩ := handle_good st c
  exact ⟨h1, fun r hr => built_valid marshal hM r (h2 r hr), h3⟩

/-- **C18 (i')** what the `internalAPI` goroutine broadcasts: there always is a reply (the goroutine
    does not die), it is valid JSON (result or `{"error":…}` object), error ⇒ rules unchanged. -/
theorem api_loop_reply_valid (marshal : JVal → String) (hM : MarshalOk marshal) (st : AppState) (c : Cmd) :
    ∃ rep, loopReply (handle st c).2 = some rep ∧ ValidJson (rep.text marshal) ∧
      ((handle st c).2.isErr = true → (handle st c).1 = st) := by
  obtain ⟨h1, h2, h3, _⟩ := handle_good st c
  cases hres : (handle st c).2 with
  | ok r => exact ⟨r, rfl, built_valid marshal hM r (h2 r hres), fun h => by simp [Res.isErr] at h⟩
  | err m => exact ⟨.marshal (.error m), rfl, hM _, fun _ => h3 m hres⟩
  | panic k => exact absurd hres (h1 k)

/-- a well-formed `delete destination apiRule` — the one documented command that is refused -/
def Cmd.refusedDelete (c : Cmd) : Bool :=
  !c.decodeErr && c.verb != "healthcheck" && c.what == "destination" && c.verb == "delete" && c.which == "apiRule"

/-- one guarded alternative `k == a && x || y` of a Boolean classifier, where `y` is out of the question
    once `k = a`, is the `switch` case it mirrors -/
theorem guard_or {k a : String} {x y : Bool} (h : k = a → y = false) :
    (k == a && x || y) = if k = a then x else y := by
  by_cases hk : k = a
  · rw [if_pos hk, h hk, Bool.or_false, beq_iff_eq.2 hk, Bool.true_and]
  · rw [if_neg hk, beq_false_of_ne hk, Bool.false_and, Bool.false_or]

theorem guard {k a : String} {x : Bool} : (k == a && x) = if k = a then x else false := by
  rw [← Bool.or_false (k == a && x), guard_or fun _ => rfl]

/-- the verbs of one `what` block of the dispatcher -/
theorem verbs_ite {v : String} {x y z : Bool} :
    (v == "add" && x || v == "delete" && y || v == "list" && z) =
      if v = "add" then x else if v = "delete" then y else if v = "list" then z else false := by
  rw [Bool.or_assoc, guard_or (a := "add"), guard_or (a := "delete"), guard]
  · -- `delete` is not `list`
    rintro rfl; simp
  · -- `add` is neither
    rintro rfl; simp

/-- the shape of `Cmd.wellFormed` and of `Cmd.refusedDelete`: a disjunction of the dispatcher's
    comparisons, each guarding the condition `t` puts on the route it leads to -/
def Cmd.classify (c : Cmd) (t : Route → Bool) : Bool :=
  !c.decodeErr &&
    (c.verb == "healthcheck" && t .health ||
     c.what == "destination" &&
       (c.verb == "add" && t .destAdd || c.verb == "delete" && t .destDelete || c.verb == "list" && t .destList) ||
     c.what == "stream" &&
       (c.verb == "add" && t .streamAdd || c.verb == "delete" && t .streamDelete ||
        c.verb == "list" && t .streamList))

/-- Such a classifier says on every route what the condition for that route says: the literals compared
    with are distinct, so at most one guard holds. -/
theorem classify_route (c : Cmd) (t : Route → Bool) (hb : t .bad = false) : c.classify t = t (route c) := by
  unfold Cmd.classify route
  simp only [apply_ite t, hb]
  cases c.decodeErr
  · -- the two verb blocks, then the three outer guards one at a time
    rw [Bool.not_false, Bool.true_and, if_neg Bool.false_ne_true, verbs_ite, verbs_ite, Bool.or_assoc,
      guard_or (a := "healthcheck"), guard_or (a := "destination"), guard (a := "stream")]
    · -- `destination` is not `stream`
      intro h; simp [h]
    · -- `healthcheck` is none of the verbs of the two blocks
      intro h; simp [h]
  · rfl

/-- `Cmd.wellFormed`, route by route -/
def Cmd.documented (c : Cmd) : Route → Bool
  | .bad => false
  | .health | .destList | .streamDelete => true
  | .destDelete | .streamList => c.which != ""
  | .destAdd =>
    (match c.rule with
     | some rj => (match rj.asDest with | .ok _ => true | .error _ => false)
     | none => false)
  | .streamAdd =>
    (match c.rule with
     | some rj => (match rj.asStream with | .ok _ => true | .error _ => false)
     | none => false)

theorem wellFormed_route (c : Cmd) : c.wellFormed = c.documented (route c) := by
  have h := classify_route c c.documented rfl
  simp only [Cmd.classify, Cmd.documented, Bool.and_true] at h
  exact h

/-- `Cmd.refusedDelete`, route by route -/
def Cmd.refused (c : Cmd) : Route → Bool
  | .destDelete => c.which == "apiRule"
  | _ => false

theorem refusedDelete_route (c : Cmd) : c.refusedDelete = c.refused (route c) := by
  rw [← classify_route c c.refused rfl, Cmd.refusedDelete]
  -- `delete` is not `healthcheck`
  by_cases hd : c.verb = "delete"
  · simp [hd, Cmd.classify, Cmd.refused, Bool.and_assoc]
  · simp [beq_false_of_ne hd, Cmd.classify, Cmd.refused]

theorem destAdd_isErr (st : AppState) (c : Cmd) :
    (destAdd current st c.rule).2.isErr = !c.documented .destAdd := by
  unfold destAdd Cmd.documented
  rcases c.rule with _ | ⟨_ | _, _⟩ <;> rfl

theorem streamAdd_isErr (st : AppState) (c : Cmd) :
    (streamAdd current st c.rule).2.isErr = !c.documented .streamAdd := by
  unfold streamAdd Cmd.documented
  rcases c.rule with _ | ⟨_, _ | _⟩ <;> rfl

theorem destDelete_isErr (st : AppState) (which : String) :
    (destDelete current st which).2.isErr = (!(which != "") || which == "apiRule") := by
  unfold destDelete
  by_cases h1 : which = ""
  · simp [h1, Res.isErr]
  rw [if_neg h1]
  by_cases h2 : which = "all" ∨ (current.deleteAllAlias = true ∧ which = "deleteAll")
  · rw [if_pos h2]
    rcases h2 with rfl | ⟨_, rfl⟩ <;> simp [Res.isErr]
  rw [if_neg h2]
  by_cases h3 : which = "apiRule" <;> simp [h1, h3, Res.isErr]

theorem streamList_isErr (st : AppState) (which : String) :
    (streamList st which).2.isErr = !(which != "") := by
  by_cases h : which = "" <;> by_cases h' : which = "all" <;> simp [streamList, Res.isErr, h, h']

/-- Exactly the commands outside the documented grammar, and the refused delete, are answered with an
    error: route by route, the handler reached fails on what `Cmd.wellFormed` excludes there. -/
theorem handle_isErr (st : AppState) (c : Cmd) :
    (handle st c).2.isErr = (!c.wellFormed || c.refusedDelete) := by
  rw [handle, handleV_route, wellFormed_route, refusedDelete_route]
  cases route c with
  | bad | health => rfl
  | destAdd => exact (destAdd_isErr st c).trans (Bool.or_false _).symm
  | destDelete => exact destDelete_isErr st c.which
  | destList | streamDelete =>
    exact iteInduction (motive := fun p : AppState × Res => p.2.isErr = false) (fun _ => rfl) fun _ => rfl
  | streamAdd => exact (streamAdd_isErr st c).trans (Bool.or_false _).symm
  | streamList => exact (streamList_isErr st c.which).trans (Bool.or_false _).symm

theorem isErr_iff {r : Res} : r.isErr = true ↔ ∃ m, r = .err m := by
  cases r <;> simp [Res.isErr]

/-- **C18 (ii')** exactly the commands outside the documented grammar, plus `delete destination apiRule`,
    are answered with an error. -/
theorem handle_err_iff (st : AppState) (c : Cmd) :
    (handle st c).2.isErr = true ↔ (c.wellFormed = false ∨ c.refusedDelete = true) := by
  rw [handle_isErr]; simp

/-- **C18 (ii)** a command outside the documented grammar (not JSON, wrong types, unknown verb/what,
    `add` without a decodable rule, missing `which` where one is required) is answered with an error
    and changes nothing. -/
theorem invalid_command_noop (st : AppState) (c : Cmd) (h : c.wellFormed = false) :
    (handle st c).1 = st ∧ ∃ m, (handle st c).2 = .err m := by
  obtain ⟨m, hm⟩ := isErr_iff.1 ((handle_err_iff st c).2 (.inl h))
  exact ⟨(handle_good st c).2.2.1 m hm, m, hm⟩

theorem refused_delete_noop (st : AppState) (c : Cmd) (h : c.refusedDelete = true) :
    handle st c = (st, .err errNoDeleteAPIRule) := by
  simp only [Cmd.refusedDelete, Bool.and_eq_true, Bool.not_eq_true', bne_iff_ne, ne_eq, beq_iff_eq] at h
  obtain ⟨⟨⟨⟨h1, h2⟩, h3⟩, h4⟩, h5⟩ := h
  simp [handle, handleV, destDelete, h1, h3, h4, h5, current]

/-- a documented command other than the refused delete succeeds -/
theorem wellformed_ok (st : AppState) (c : Cmd) (h : c.wellFormed = true) (hr : c.refusedDelete = false) :
    ∃ r, (handle st c).2 = .ok r := by
  have he : (handle st c).2.isErr = false := by rw [handle_isErr, h, hr]; rfl
  cases hres : (handle st c).2 with
  | ok r => exact ⟨r, rfl⟩
  | panic k => exact absurd hres ((handle_good st c).1 k)
  | err m => rw [hres] at he; simp [Res.isErr] at he

/-- **C18 (ii'')** in any command sequence the invalid commands may be dropped: the final rule
    state is the same. -/
theorem invalid_commands_skippable (st : AppState) (cs : List Cmd) :
    run st (cs.filter Cmd.wellFormed) = run st cs := by
  unfold run
  induction cs generalizing st with
  | nil => rfl
  | cons c cs ih =>
    by_cases hw : c.wellFormed = true
    · simp only [List.filter_cons, hw, if_true, List.foldl_cons]
      exact ih _
    · have hw' : c.wellFormed = false := by simpa using hw
      simp only [List.filter_cons, hw', Bool.false_eq_true, if_false, List.foldl_cons]
      rw [(invalid_command_noop st c hw').1]
      exact ih _

theorem handle_api (st : AppState) (c : Cmd) : (handle st c).1.api = st.api := (handle_good st c).2.2.2

/-- here and below `api` is the value of `Opts.API`, which no command changes (`handle_api`) -/
theorem handle_keeps_apirule {api : String} (st : AppState) (c : Cmd) (ha : st.api = api) (hapi : api ≠ "")
    (h : has st.dest "apiRule" = true) : has (handle st c).1.dest "apiRule" = true := by
  subst ha
  rcases (handle_goodStep st c).2 hapi with e | e | e
  · rw [has, e]; exact h
  · rw [has, e]; rfl
  · exact e.2

theorem handle_keeps_apirule_intact {api : String} (st : AppState) (c : Cmd) (ha : st.api = api)
    (hapi : api ≠ "") (hc : c.carriesApiRule = false)
    (h : lookup st.dest "apiRule" = some (apiRule api)) :
    lookup (handle st c).1.dest "apiRule" = some (apiRule api) := by
  subst ha
  rcases (handle_goodStep st c).2 hapi with e | e | e
  · rw [e, h]
  · exact e
  · rw [hc] at e; exact absurd e.1 Bool.false_ne_true

/-- general form: from any state that has `Opts.API` set and holds a rule `apiRule` -/
theorem run_keeps_apirule {api : String} (hapi : api ≠ "") (cs : List Cmd) (st : AppState) (ha : st.api = api)
    (h : has st.dest "apiRule" = true) : has (run st cs).dest "apiRule" = true := by
  induction cs generalizing st with
  | nil => exact h
  | cons c cs ih =>
    exact ih (handle st c).1 ((handle_api st c).trans ha) (handle_keeps_apirule st c ha hapi h)

/-- general form: from any state that has `Opts.API` set and holds the start-up rule -/
theorem run_keeps_apirule_intact {api : String} (hapi : api ≠ "") (cs : List Cmd)
    (hcs : ∀ c ∈ cs, c.carriesApiRule = false) (st : AppState) (ha : st.api = api)
    (h : lookup st.dest "apiRule" = some (apiRule api)) :
    lookup (run st cs).dest "apiRule" = some (apiRule api) := by
  induction cs generalizing st with
  | nil => exact h
  | cons c cs ih =>
    exact ih (fun c hc => hcs c (List.mem_cons_of_mem _ hc)) (handle st c).1 ((handle_api st c).trans ha)
      (handle_keeps_apirule_intact st c ha hapi (hcs c (List.mem_cons_self ..)) h)

theorem start_lookup_apirule (api : String) (hapi : api ≠ "") :
    lookup (start api).dest "apiRule" = some (apiRule api) := by
  simp [start, hapi, rwcAdd, apiRule, KV.insert, KV.lookup]

/-- **C18 (iii)** with `Opts.API ≠ ""`, after ANY sequence of websocket commands — valid or not,
    including `delete … all`, `delete … deleteAll`, `delete … apiRule`, `add` with id `apiRule` or
    `deleteAll` — a rule with id `apiRule` exists. (An `add` with that id replaces it: allowed.) -/
theorem apirule_protected (api : String) (hapi : api ≠ "") (cs : List Cmd) :
    has (run (start api) cs).dest "apiRule" = true :=
  run_keeps_apirule hapi cs (start api) rfl (by rw [has, start_lookup_apirule api hapi]; rfl)

/-- **C18 (iii')** … and unless some command re-adds a rule under the id `apiRule`, the rule is still
    exactly the one created at start-up: `{stream: api, destination: Opts.API, id: apiRule}`. -/
theorem apirule_intact_without_add (api : String) (hapi : api ≠ "") (cs : List Cmd)
    (hcs : ∀ c ∈ cs, c.carriesApiRule = false) :
    lookup (run (start api) cs).dest "apiRule" = some (apiRule api) :=
  run_keeps_apirule_intact hapi cs hcs (start api) rfl (start_lookup_apirule api hapi)

/-- a decoded `delete destination all` / `delete destination deleteAll` -/
def Cmd.isDestDeleteAll (c : Cmd) : Bool :=
  !c.decodeErr && c.verb == "delete" && c.what == "destination" && (c.which == "all" || c.which == "deleteAll")

theorem handle_destDeleteAll (st : AppState) (c : Cmd) (h : c.isDestDeleteAll = true) :
    handle st c = (destDeleteAll st, .ok (.lit "{\"deleted\":\"deleteAll\"}")) := by
  simp only [Cmd.isDestDeleteAll, Bool.and_eq_true, Bool.not_eq_true', Bool.or_eq_true, beq_iff_eq] at h
  obtain ⟨⟨⟨h1, h2⟩, h3⟩, h4⟩ := h
  rcases h4 with h4 | h4 <;> simp [handle, handleV, destDelete, h1, h2, h3, h4, current]

/-- **C18 (iii'')** delete-all over the control connection removes every destination rule and
    re-creates the connection's own rule — whatever was there before. -/
theorem apirule_recreated_by_delete_all (st : AppState) (c : Cmd) (hapi : st.api ≠ "")
    (h : c.isDestDeleteAll = true) :
    (handle st c).1.dest = [("apiRule", apiRule st.api)] := by
  rw [handle_destDeleteAll st c h]
  exact destDeleteAll_dest st hapi

/-- … and with `Opts.API = ""` nothing is re-created: a user rule that happens to be called `apiRule`
    cannot be deleted on its own (`refused_delete_noop`) but goes with delete-all. -/
theorem no_apirule_without_api_after_delete_all (st : AppState) (c : Cmd) (hapi : st.api = "")
    (h : c.isDestDeleteAll = true) : (handle st c).1.dest = [] := by
  rw [handle_destDeleteAll st c h]
  simp [destDeleteAll, hapi, rwcDelete]

/-- what every HTTP rule handler guarantees (the counterpart of `Good`) -/
def HttpGood (marshal : JVal → String) (st : AppState) (p : AppState × HttpResp) : Prop :=
  (p.2.status = 200 ∨ p.2.status = 404 ∨ p.2.status = 500) ∧
  (∀ r, p.2.body = .json r → p.2.status = 200 ∧ ValidJson (r.text marshal)) ∧
  (p.2.status ≠ 200 → p.1 = st) ∧ p.1.api = st.api

/-- **C18 (iv)** every request that reaches one of the HTTP rule handlers gets a complete response:
    the handler returns (no panic branch exists), with status 200, 404 or 500; a body sent as
    `application/json` comes with status 200 and is valid JSON; any other status leaves the rules
    unchanged. -/
theorem http_total_valid (marshal : JVal → String) (hM : MarshalOk marshal) (st : AppState) (req : HttpReq) :
    ((httpHandle st req).2.status = 200 ∨ (httpHandle st req).2.status = 404 ∨ (httpHandle st req).2.status = 500) ∧
    (∀ r, (httpHandle st req).2.body = .json r → (httpHandle st req).2.status = 200 ∧ ValidJson (r.text marshal)) ∧
    ((httpHandle st req).2.status ≠ 200 → (httpHandle st req).1 = st) ∧
    (httpHandle st req).1.api = st.api := by
  show HttpGood marshal st (httpHandle st req)
  have ok : ∀ {st' : AppState} {v : JVal}, st'.api = st.api → HttpGood marshal st (st', httpOk v) := by
    intro st' v ha
    refine ⟨.inl rfl, fun r hr => ?_, fun h => absurd rfl h, ha⟩
    simp only [httpOk, Body.json.injEq] at hr
    subst hr
    exact ⟨rfl, hM v⟩
  have er : ∀ {e : String} {code : Nat}, code = 404 ∨ code = 500 → HttpGood marshal st (st, httpError e code) :=
    fun hc => ⟨.inr hc, fun r hr => by simp [httpError] at hr, fun _ => rfl, rfl⟩
  cases req with
  | destShowAll | destShow _ | destDelete _ | destDeleteAll | streamShowAll | streamDelete _ | streamDeleteAll =>
    exact ok rfl
  | destAdd body | streamAdd body =>
    cases body with
    | error e => exact er (.inr rfl)
    | ok r => exact ok rfl
  | streamShow s =>
    simp only [httpHandle]
    split
    · exact ok rfl
    · exact er (.inl rfl)
  | api => exact ⟨.inl rfl, fun r hr => by simp [httpHandle] at hr, fun h => absurd rfl h, rfl⟩

/-- **C18 (iv')** a POST body that `json.Unmarshal` rejects (not JSON, wrong types) is answered
    500 with the decoder's message and changes nothing. -/
theorem http_error_noop (st : AppState) (e : String) :
    httpHandle st (.destAdd (.error e)) = (st, ⟨500, .text (e ++ "\n")⟩) ∧
    httpHandle st (.streamAdd (.error e)) = (st, ⟨500, .text (e ++ "\n")⟩) := ⟨rfl, rfl⟩

/-- the HTTP interface is *not* covered by the apiRule protection (it is the host-local interface):
    `DELETE /api/destinations/apiRule` removes the rule. -/
theorem http_can_delete_apirule (api : String) :
    has (httpHandle (start api) (.destDelete "apiRule")).1.dest "apiRule" = false := by
  simp [httpHandle, rwcDelete]

/-- the next operation is answered properly in state `st` -/
def Answered (marshal : JVal → String) (st : AppState) : Op → Prop
  | .ws c => ∃ rep, loopReply (handle st c).2 = some rep ∧ ValidJson (rep.text marshal)
  | .http r =>
      ((httpHandle st r).2.status = 200 ∨ (httpHandle st r).2.status = 404 ∨ (httpHandle st r).2.status = 500) ∧
      ∀ rep, (httpHandle st r).2.body = .json rep → ValidJson (rep.text marshal)

/-- **C18 (v)** sequences: at every point of every interleaving of websocket commands and HTTP
    requests (any bytes, any order, any length) the next operation is answered; `Opts.API` never changes. -/
theorem ops_total (marshal : JVal → String) (hM : MarshalOk marshal) (st : AppState) (pre : List Op) (op : Op) :
    Answered marshal (runOps st pre) op ∧ (runOps st pre).api = st.api := by
  constructor
  · cases op with
    | ws c =>
      obtain ⟨rep, h1, h2, _⟩ := api_loop_reply_valid marshal hM (runOps st pre) c
      exact ⟨rep, h1, h2⟩
    | http r =>
      obtain ⟨h1, h2, _, _⟩ := http_total_valid marshal hM (runOps st pre) r
      exact ⟨h1, fun rep hr => (h2 rep hr).2⟩
  · refine List.foldlRecOn pre _ (motive := fun s : AppState => s.api = st.api) rfl fun s hs o _ => ?_
    cases o with
    | ws c => exact (handle_api s c).trans hs
    | http r => exact (http_total_valid marshal hM s r).2.2.2.trans hs

/-! ### the theorems are not vacuous: the un-repaired dispatchers violate them -/

/-- before 9ae98e0: `{"verb":"add","what":"stream"}` dereferences the nil rule (and the API
    goroutine has no `recover`) -/
theorem add_without_rule_panics_without_nilcheck :
    (handleV { nilCheck := false } {} { verb := "add", what := "stream" }).2 = .panic "nil-deref" ∧
    loopReply (handleV { nilCheck := false } {} { verb := "add", what := "destination" }).2 = none := by
  constructor <;> simp [handleV, streamAdd, destAdd, loopReply]

/-- before 0014876: `{"verb":"delete","what":"destination","which":"deleteAll"}` took the default
    branch, reached the hub as the reserved id and removed every rule including `apiRule`, which was
    not re-created -/
theorem apirule_bypass_without_alias :
    has (handleV { deleteAllAlias := false } (start "wss://relay/api")
          { verb := "delete", what := "destination", which := "deleteAll" }).1.dest "apiRule" = false := by
  decide +kernel

example :
    let add00 : Cmd := { verb := "add", what := "destination",
                         rule := some { asDest := .ok { id := "00", stream := "/s", destination := "ws://d" },
                                        asStream := .ok { stream := "/s" } } }
    let cs : List Cmd :=
      [ add00,
        { verb := "delete", what := "destination", which := "apiRule" },     -- refused
        { decodeErr := true },                                                -- not JSON
        { verb := "delete", what := "destination", which := "deleteAll" },    -- delete-all, apiRule re-created
        { verb := "add", what := "stream", rule := none },                    -- bad command
        add00 ]
    (run (start "wss://relay/api") cs).dest =
      [("00", { id := "00", stream := "s", destination := "ws://d" }), ("apiRule", apiRule "wss://relay/api")] := by
  decide +kernel

example :
    (handle { streams := [("v", some ["a", "b"])] } { verb := "list", what := "stream", which := "v" }).2.isErr = false ∧
    (handle {} { verb := "list", what := "stream", which := "" }).2.isErr = true := by
  decide +kernel

end VwApi
