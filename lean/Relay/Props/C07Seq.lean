import Relay.Lemmas.RelayStep
import Relay.Props.HubInv
import Relay.Props.C02

/-!
# C07, sequential part — a cancellation takes effect and stays in effect

`deny_sticks_atomic_partial`: for every history in which each API call / admission runs as one atomic
step (any number of bookings, any order, any clock moves): while a booking id is on the deny list, no
connection made under it is joined and no code issued for it is in the store — so nothing presented
later can be admitted under it — and session requests carrying it are refused. It leaves the deny list
only by an explicit allow or by the prune after the expiry given in the deny request (C10).
The interleaved version (handlers' internal steps racing) is in `Props/C07.lean`.
-/

namespace Relay
open Access

def DenyInv (s : St) : Prop :=
  ∀ b, Deny.isDenied s.reg b = true →
    (∀ c ∈ s.hub.members, c.bid ≠ b) ∧ (∀ e ∈ s.codes.entries, e.bid ≠ b)

theorem eff_inv (cfg : Config) (s s' : St) (hI : DenyInv s) (h : Eff cfg s s') : DenyInv s' := by
  intro b hden
  cases h with
  | same | tick t => exact hI b hden
  | grant bt id hfv =>
    -- the booking of a granted session moves to the allow list, so it is not `b`
    obtain ⟨hne, hold⟩ : bt.bid ≠ b ∧ Deny.isDenied s.reg b = true := by
      simpa only [sessionGrant, Deny.isDenied, Deny.step, KV.has_erase, Bool.and_eq_true, bne_iff_ne] using hden
    refine ⟨(hI b hold).1, fun e he => ?_⟩
    simp only [sessionGrant, TtlCode.step, List.mem_cons] at he
    rcases he with he | he
    · subst he; exact hne
    · exact (hI b hold).2 e he
  | deny k e =>
    -- `b` is the booking just denied, whose members and codes are removed, or was denied before
    simp only [denyAct, Deny.isDenied, Deny.step, KV.has_insert, Bool.or_eq_true, beq_iff_eq] at hden
    refine ⟨fun c hc => ?_, fun en hen => ?_⟩
    · obtain ⟨hc, hne⟩ := mem_denyAct_members.1 hc
      rcases hden with rfl | h
      · exact hne
      · exact (hI b h).1 c hc
    · obtain ⟨hen, hne⟩ := mem_denyAct_entries.1 hen
      rcases hden with rfl | h
      · exact hne
      · exact (hI b h).2 en hen
  | allow k e =>
    obtain ⟨-, hold⟩ : (k != b) = true ∧ Deny.isDenied s.reg b = true := by
      simpa only [allowAct, Deny.isDenied, Deny.step, KV.has_erase, Bool.and_eq_true] using hden
    exact hI b hold
  | spend c =>
    exact ⟨(hI b hden).1, fun en hen => (hI b hden).2 en (TtlCode.exchange_entries_sub s.codes c en hen)⟩
  | join path c e pt ua remote hf hexp hpt hA =>
    -- admission checks the deny list, so the new member's booking is not `b`
    refine ⟨fun m hm => ?_, fun en hen => (hI b hden).2 en (TtlCode.exchange_entries_sub s.codes c en hen)⟩
    simp only [afterJoin, Hub.step, List.mem_append, List.mem_singleton] at hm
    rcases hm with hm | hm
    · exact (hI b hden).1 m hm
    · subst hm
      intro hbid
      have hnd := hA.not_denied
      rw [show pt.bid = b from hbid, show Deny.isDenied s.reg b = true from hden] at hnd
      cases hnd
  | hub ev hreg =>
    refine ⟨fun c hc => ?_, (hI b hden).2⟩
    obtain ⟨c0, hc0, hs⟩ := Hub.step_members_kept s.hub ev hreg c hc
    rw [hs.bid]; exact (hI b hden).1 c0 hc0
  | prune =>
    simp only [Deny.isDenied, Deny.step] at hden
    exact hI b (KV.has_of_has_keep _ _ _ hden)
  | sweep =>
    exact ⟨(hI b hden).1, fun en hen => (hI b hden).2 en (sweep_entries_sub hen)⟩

theorem run_inv (cfg : Config) (ops : List Op) : DenyInv (run cfg ops) :=
  run_induction cfg (fun b h => by simp [Deny.isDenied, KV.has, KV.lookup] at h) (eff_inv cfg) ops

/-- **C07 for sequential histories** (`_partial`: every handler instance runs atomically): at every point
    of every history, for every booking id currently on the deny list —
    (i) no connection made under it is joined, (ii) no code issued for it is in the store, hence any
    websocket presenting a code for it is refused and the hub stays as it is, (iii) every session request
    carrying it is refused with no code. -/
theorem deny_sticks_atomic_partial (cfg : Config) (ops : List Op) (b : String)
    (hden : Deny.isDenied (run cfg ops).reg b = true) :
    (∀ c ∈ (run cfg ops).hub.members, c.bid ≠ b) ∧
    (∀ e ∈ (run cfg ops).codes.entries, e.bid ≠ b) ∧
    (∀ bt id, bt.bid = b → ∀ c uri, (session cfg (run cfg ops) (.token bt) id).2 ≠ .sessionOK c uri) := by
  have hI := run_inv cfg ops b hden
  refine ⟨hI.1, hI.2, ?_⟩
  intro bt id hbid c uri hok
  rcases session_cases cfg (run cfg ops) (.token bt) id with ⟨_, hb', _, hfv, _⟩ | ⟨_, _, heq, _⟩
  · cases hb'
    have := hfv.not_denied
    rw [hbid, hden] at this; cases this
  · rw [heq] at hok; cases hok

/-- what an acknowledged deny does in one step: the booking is on the deny list, its connections are
    gone, its codes are gone; **other bookings are untouched** (their members, codes and list status). -/
theorem deny_effect (cfg : Config) (s : St) (bt : Bearer) (bid exp : Param)
    (h : (denyReq cfg s (.token bt) bid exp).2 = .status 204) :
    ∃ k e, bindBidExp bid exp = some (k, e) ∧
      let s' := (denyReq cfg s (.token bt) bid exp).1
      Deny.isDenied s'.reg k = true ∧
      (∀ c, c ∈ s'.hub.members ↔ c ∈ s.hub.members ∧ c.bid ≠ k) ∧
      (∀ en, en ∈ s'.codes.entries ↔ en ∈ s.codes.entries ∧ en.bid ≠ k) ∧
      (∀ b', b' ≠ k → Deny.status s'.reg b' = Deny.status s.reg b') := by
  rw [denyReq_eq] at h ⊢
  rcases bidsReq_cases denyAct cfg s (.token bt) bid exp with ⟨_, k, e, ⟨_, _, hbind, _⟩, heq⟩ | ⟨_, c, heq, hc⟩
  · refine ⟨k, e, hbind, ?_⟩
    rw [heq]
    refine ⟨by simp [denyAct, Deny.isDenied, Deny.step], ?_, ?_, ?_⟩
    · exact fun c => mem_denyAct_members
    · exact fun en => mem_denyAct_entries
    · intro b' hne
      simp only [denyAct, Deny.step, Deny.status]
      rw [KV.lookup_insert_ne _ _ (fun h => hne h.symm), KV.lookup_erase_ne _ (fun h => hne h.symm)]
  · rw [heq] at h; injection h with h; omega

end Relay
