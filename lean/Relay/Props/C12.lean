import Relay.Base.Locks
import Relay.Base.LockSerial
import Relay.Extracted.Locks

/-!
# C12 — concurrent use of the relay is equivalent to some serial use

Three layers:
1. `all_wellLocked` — a kernel-evaluated check of the table REGENERATED from /repo's source on every run
   (`Relay/Extracted/Locks.lean`): every method of the code store, the deny/allow store and the
   cancel-channel store, and every crossbar function touching hub membership or per-connection statistics,
   reads its guarded fields only under the guarding mutex (R or W), writes them only under W, balances its
   locks and holds nothing at exit.
2. `stores_race_free` — therefore (generic theorem `Locks.wellLocked_race_free`) for ANY number of
   goroutines each running ANY of these functions, under every schedule the mutexes admit, no two
   conflicting accesses to one guarded location are ever enabled together.
3. `LockSerial.serializes` (here `store_ops_linearizable`) — bodies that are single critical sections of one mutex leave
   the memory, whenever the lock is free, equal to the serial execution of the completed sections in acquisition order, for
   every schedule; `store_methods_single_section` — every method of the three stores in the table is such a body: each
   store method is one atomic step (what C02, C07, C10 assume).

Beside them: `no_blocking_under_lock` (no lock is held across a wait for another goroutine) and `guarded_state_covered`
(the property's list of guarded state is what the table is about).
-/

namespace C12
open Locks

/-! The table theorems below are evaluations of a decidable check over the whole regenerated table. `decide +kernel` leaves the
evaluation to the kernel alone (plain `decide` evaluates once more in the elaborator first; the string comparisons make that the
dear part). -/

/-- the regenerated lock table satisfies the discipline (fails to elaborate if any method of the current
    source lost a lock, accesses a guarded field outside it, or leaves a lock held) -/
theorem all_wellLocked : ∀ m ∈ Extracted.methods, wellLocked m.2 = true := by decide +kernel

/-- **no mutex is held across a wait for another goroutine**: in the current source no store method and no crossbar function
    performs a channel send or receive (outside a `select` with a `default`), a `WaitGroup.Wait` or a `Sleep` between taking and
    releasing one of the mutexes of the table. This is what makes "a goroutine holding a lock finishes its critical section without
    anybody's help" true — the premise under which a lock table says something about progress (a lock held across an unbuffered
    hand-over to the hub dead-locks with the status scan as soon as the hub itself waits for the hub lock). -/
theorem no_blocking_under_lock : Extracted.blockingUnderLock = [] := rfl

/-- every guarded location named in the property is covered by the table -/
theorem guarded_state_covered :
    ∀ loc ∈ ["CodeStore.store", "deny.AllowList", "deny.DenyList", "chanmap.ChildrenByParent", "chanmap.ParentByChild",
             "crossbar.Hub.clients", "crossbar.Frames.tx", "crossbar.Frames.rx"],
      (guardOf loc).isSome = true ∧ ∃ m ∈ Extracted.methods, (Ev.wr loc ∈ m.2 ∨ Ev.rd loc ∈ m.2) := by decide +kernel

/-- **race freedom for every interleaving**: any number of goroutines, each executing any function of the
    table, any schedule admitted by the mutexes: conflicting accesses are never enabled together. -/
theorem stores_race_free (threads : List (List Ev))
    (hfrom : ∀ b ∈ threads, ∃ m ∈ Extracted.methods, b = m.2)
    (c : Config) (hr : Reach threads c) (t1 t2 : Nat) (hne : t1 ≠ t2) (e1 e2 : Ev)
    (h1 : c.next t1 = some e1) (h2 : c.next t2 = some e2) : conflicting e1 e2 = none := by
  apply wellLocked_race_free threads _ c hr t1 t2 hne e1 e2 h1 h2
  intro b hb
  obtain ⟨m, hm, rfl⟩ := hfrom b hb
  exact all_wellLocked m hm

/-- the methods whose whole guarded work is one critical section of one mutex (so `LockSerial.serializes`
    applies to them): a single lock … unlock bracket with every access inside -/
def singleSection (evs : List Ev) : Bool :=
  match evs with
  | [] => true
  | .lock m :: rest =>
    (match rest.reverse with
     | .unlock m' :: mid => m == m' && mid.all (fun e => match e with | .rd _ | .wr _ => true | _ => false)
     | _ => false)
  | _ => false

def hasPrefix (p s : String) : Bool := p.toList.isPrefixOf s.toList

/-- every function of the table outside the crossbar is one critical section (evaluated: the sections come first, so a
    name is only looked at for the few functions that are not single sections) -/
theorem single_or_crossbar :
    ∀ m ∈ Extracted.methods, (singleSection m.2 || hasPrefix "crossbar." m.1) = true := by decide +kernel

theorem hasPrefix_comparable {p q s : String} (hp : hasPrefix p s = true) (hq : hasPrefix q s = true) :
    p.toList <+: q.toList ∨ q.toList <+: p.toList := by
  simp only [hasPrefix, List.isPrefixOf_iff_prefix] at hp hq
  exact List.prefix_or_prefix_of_prefix hp hq

theorem store_methods_single_section :
    ∀ m ∈ Extracted.methods, (hasPrefix "ttlcode." m.1 || hasPrefix "deny." m.1 || hasPrefix "chanmap." m.1) = true →
      singleSection m.2 = true := by
  intro m hm hstore
  cases hs : singleSection m.2
  · -- then it is a crossbar function; but a store prefix and `crossbar.` are not prefixes of one name
    have hc := single_or_crossbar m hm
    rw [hs, Bool.false_or] at hc
    simp only [Bool.or_eq_true] at hstore
    rcases hstore with (h | h) | h <;> rcases hasPrefix_comparable h hc with h' | h'
    -- six times the same kind of fact: of two literal names neither is a prefix of the other
    all_goals
      revert h'
      decide
  · rfl

/-- for every schedule and any number of concurrent store calls (each a critical section over the store's
    state `σ`), when the mutex is free the store equals the serial execution in acquisition order -/
theorem store_ops_linearizable {σ : Type} (bodies : List (LockSerial.Body σ)) (m0 : σ) (sched : List Nat) :
    let s := sched.foldl (LockSerial.step bodies) (LockSerial.init m0)
    s.holder = none → s.mem = LockSerial.foldEff bodies s.order m0 :=
  LockSerial.serializes bodies m0 sched

/-! non-vacuity: two goroutines in `ExchangeCode` racing with `DeleteByBookingID` is an instance -/
example : ∃ m1 ∈ Extracted.methods, ∃ m2 ∈ Extracted.methods,
    m1.1 = "ttlcode.CodeStore.ExchangeCode" ∧ m2.1 = "ttlcode.CodeStore.DeleteByBookingID" ∧
    Ev.wr "CodeStore.store" ∈ m1.2 ∧ Ev.wr "CodeStore.store" ∈ m2.2 := by decide +kernel

end C12
