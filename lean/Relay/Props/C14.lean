import Relay.Model.Status
import Relay.Lemmas.DurationRT
import Relay.Lemmas.TimeRT
import Relay.Lemmas.StatusRT

/-!
# C14 (codec half) — every report the relay can emit is read back by the published client as the same values

Theorems (all for every member: any metadata strings, any scopes incl. nil/empty, any traffic
history incl. never-sent / never-received, any int64 `time.Since`, any instants):
* `Dur.duration_roundtrip`      `ParseDuration(d.String()) = d` for every int64 d
* `TimeText.rfc3339_roundtrip`  `UnmarshalJSON(MarshalText(t)) = t` for every instant with UTC year 0..9999
* `Status.never_roundtrip`      a direction without traffic is read as Never = true, 999 h, 0, 0
* `Status.stats_roundtrip`      a direction with traffic is read as the same duration / size / fps, Never = false
* `Status.report_roundtrip`     finite → yearsInRange → the client decodes the stats-topic report to `view c`
* `Status.frame_roundtrip`      the same for the whole array (the frame on topic `stats`)
* `Status.nonfinite_no_frame`   excluded point 1: a non-finite size/fps ⇒ `json.Marshal` fails, no frame
* `TimeText.format_out_of_range`, `Status.expiry_out_of_range_rejects_report`, `Status.expiry_out_of_range_rejects_frame`,
  `Status.k4_witness`, `Status.not_ReportRoundtripAllYears`
                                excluded point 2 (known finding K4): an expiry outside years 0..9999 ⇒ `expiresAt:""` ⇒
                                the client rejects the **whole** array
* `Status.rest_decoded_by_status_client`  what the published client recovers from the body of GET /status:
                                only `connected`, `scopes`, `stats`, `topic` (names shared with the REST schema)
* `Status.not_RestRoundtrip`    … and therefore not the member's read/write capability, expiry, address, user agent
* `Status.numeric_last_is_ns`   a numeric `last` (the client's own re-marshalled reports) is read as nanoseconds
-/

namespace Dur

/-- **C14 duration**: Go's `ParseDuration` reads every `Duration.String()` back exactly — for
    every `int64` nanosecond count, including 0, the sub-second units, negative values and the
    minimum `int64`. -/
theorem duration_roundtrip (d : Int) (hlo : -2 ^ 63 ≤ d) (hhi : d < 2 ^ 63) :
    parseDuration (durationString d) = some d := duration_roundtrip' d hlo hhi

example : durationString (-9223372036854775808) = "-2562047h47m16.854775808s" := by decide +kernel
example : durationString 1500000 = "1.5ms" ∧ parseDuration "1.5ms" = some 1500000 := by decide +kernel

end Dur

namespace TimeText

/-- **C14 instants**: an instant whose UTC year is within 0..9999 is written by `MarshalText`
    and read back by `Time.UnmarshalJSON` as the same instant (to the nanosecond). -/
theorem rfc3339_roundtrip (t : Time) (hns : t.ns < 1000000000)
    (hy : 0 ≤ (civil (t.sec / 86400)).1 ∧ (civil (t.sec / 86400)).1 ≤ 9999) :
    ∃ s, formatRFC3339 t = some s ∧ parseRFC3339 s = some t := by
  obtain ⟨cs, h1, h2⟩ := parse_format t hns hy
  exact ⟨String.ofList cs, by simp [formatRFC3339, h1], by simp [parseRFC3339, String.toList_ofList, h2]⟩

/-- outside years 0..9999 `MarshalText` fails -/
theorem format_out_of_range (t : Time)
    (hy : ¬ (0 ≤ (civil (t.sec / 86400)).1 ∧ (civil (t.sec / 86400)).1 ≤ 9999)) :
    formatRFC3339 t = none := by
  have : (civil (t.sec / 86400)).1 < 0 ∨ (civil (t.sec / 86400)).1 > 9999 := by omega
  simp [formatRFC3339, formatChars, this]

example : formatRFC3339 ⟨951782400, 100⟩ = some "2000-02-29T00:00:00.0000001Z" := by decide +kernel
example : formatRFC3339 ⟨253402300800, 0⟩ = none := by decide

end TimeText

namespace Status
open TimeText Dur

theorem decTime_timeField (cur t : Time) (hns : t.ns < 1000000000)
    (hy : 0 ≤ yearOf t ∧ yearOf t ≤ 9999) : decTime cur (.str (timeField t)) = some t := by
  obtain ⟨s, h1, h2⟩ := rfc3339_roundtrip t hns hy
  simp [decTime, timeField, h1, h2]

theorem timeField_out_of_range (t : Time) (hy : ¬ (0 ≤ yearOf t ∧ yearOf t ≤ 9999)) : timeField t = "" := by
  simp [timeField, format_out_of_range t hy]

theorem decTime_empty (cur : Time) : decTime cur (.str "") = none := rfl

theorem decStrings_encodeScopes (sc : Option (List String)) : decStrings (encodeScopes sc) = some sc := by
  cases sc with
  | none => rfl
  | some l =>
    have : (l.map Json.str).mapM decStringElem = some l := by
      induction l with
      | nil => rfl
      | cons a as ih => simp [List.mapM_cons, decStringElem, ih]
    simp [encodeScopes, decStrings, this]

/-- a direction that never carried a message is reported as
    `{"last":"Never","size":0,"fps":0}` and read as Never = true with the 999 h placeholder -/
theorem never_roundtrip (cur : Statistics) (f : Frames) (h : f.count = 0) :
    decodeStatistics cur (encodeStats (repStats f)) = some (viewStats f) ∧ (viewStats f).never = true ∧
      (viewStats f).last = 999 * 3600 * 1000000000 := by
  have : ¬ f.count > 0 := by omega
  rw [repStats, viewStats, if_neg this, if_neg this]
  exact ⟨decodeStatistics_never cur _ _ _ (decTmpS_encodeStats _), rfl, by decide⟩

/-- a direction with traffic: duration, size and fps come back unchanged -/
theorem stats_roundtrip (cur : Statistics) (f : Frames) (hwf : f.wf) :
    decodeStatistics cur (encodeStats (repStats f)) = some (viewStats f) := by
  by_cases h : f.count > 0
  · simp only [repStats, viewStats, h, if_true]
    exact decodeStatistics_seen cur _ f.since _ _ (decTmpS_encodeStats _) hwf.1 hwf.2
  · simp only [repStats, viewStats, h, if_false]
    exact decodeStatistics_never cur _ _ _ (decTmpS_encodeStats _)

theorem decodeReport_encodeReport (r : ClientReport) :
    decodeReport (encodeReport r) =
      (decTime zeroTime (.str r.connected)).bind fun c =>
      (decTime zeroTime (.str r.expiresAt)).bind fun e =>
      (decodeStatistics zeroStatistics (encodeStats r.tx)).bind fun tx =>
      (decodeStatistics zeroStatistics (encodeStats r.rx)).map fun rx =>
        { canRead := r.canRead, canWrite := r.canWrite, connected := c, expiresAt := e,
          remoteAddr := r.remoteAddr, scopes := r.scopes, tx := tx, rx := rx, topic := r.topic,
          userAgent := r.userAgent } := by
  simp only [decodeReport, encodeReport, List.foldlM_cons, List.foldlM_nil, assignReport_names, assignDir_names,
    decBool, decString, decStrings_encodeScopes, zeroReport, Option.bind_eq_bind, Option.map_eq_bind, Option.bind_assoc,
    Function.comp_def, Option.bind_some, Option.pure_def]

/-- **C14 report**: for every member — any metadata strings, any scopes, any traffic history
    (never-sent / never-received included), any elapsed time an int64 can hold — whose statistics are
    finite and whose two instants lie in years 0..9999, the published client decodes the report the
    relay emits on topic `stats` into exactly the member's values. -/
theorem report_roundtrip (c : Conn) (hwf : c.wf) (_hfin : c.finite) (hy : c.yearsInRange) :
    decodeReport (encodeReport (getStats c)) = some (view c) := by
  rw [decodeReport_encodeReport]
  simp only [getStats, decTime_timeField zeroTime _ hwf.cns hy.1, decTime_timeField zeroTime _ hwf.ens hy.2,
    stats_roundtrip zeroStatistics _ hwf.tx, stats_roundtrip zeroStatistics _ hwf.rx, Option.bind_some,
    Option.map_some, view]

/-- the link between the hypothesis `finite` on members and on the produced reports -/
theorem finite_getStats (c : Conn) (h : c.finite) : (getStats c).finite = true := by
  have key : ∀ f : Frames, f.finite → (repStats f).finite = true := by
    intro f hf
    by_cases hcount : f.count > 0
    · have := hf hcount
      simp [repStats, hcount, ReportStats.finite, this.1, this.2]
    · simp only [repStats, hcount, if_false]; decide
  simp [getStats, ClientReport.finite, key c.tx h.1, key c.rx h.2]

theorem all_finite_getStats (cs : List Conn) (h : ∀ c ∈ cs, c.finite) :
    ((cs.map getStats).all ClientReport.finite) = true := by
  simp only [List.all_eq_true, List.mem_map]
  rintro r ⟨c, hc, rfl⟩
  exact finite_getStats c (h c hc)

theorem decodeFrame_encodeFrame (rs : List ClientReport) (h : rs.all ClientReport.finite = true) :
    ∃ j, encodeFrame rs = some j ∧ decodeFrame j = (rs.map encodeReport).mapM decodeReport := by
  cases rs with
  | nil => exact ⟨.null, rfl, rfl⟩
  | cons a as => exact ⟨.arr ((a :: as).map encodeReport), by simp only [encodeFrame, h, if_true], rfl⟩

/-- the same for the whole array: the frame the relay sends on topic `stats` decodes, as a whole,
    to the list of the members' values, in order -/
theorem frame_roundtrip (cs : List Conn) (h : ∀ c ∈ cs, c.wf ∧ c.finite ∧ c.yearsInRange) :
    ∃ j, encodeFrame (cs.map getStats) = some j ∧ decodeFrame j = some (cs.map view) := by
  have hm : ((cs.map getStats).map encodeReport).mapM decodeReport = some (cs.map view) := by
    induction cs with
    | nil => rfl
    | cons a as ih =>
      have ha := h a (by simp)
      simp only [List.map_cons, List.mapM_cons, report_roundtrip a ha.1 ha.2.1 ha.2.2,
        ih fun c hc => h c (by simp [hc])]
      rfl
  obtain ⟨j, hj, hd⟩ := decodeFrame_encodeFrame _ (all_finite_getStats cs fun c hc => (h c hc).2.1)
  exact ⟨j, hj, hd.trans hm⟩

/-- excluded point 1: if any report holds a non-finite size/fps, `json.Marshal` fails: no frame at all -/
theorem nonfinite_no_frame (rs : List ClientReport) (r : ClientReport) (hr : r ∈ rs) (hnf : r.finite = false) :
    encodeFrame rs = none := by
  have : rs.all ClientReport.finite = false := by
    rw [List.all_eq_false]; exact ⟨r, hr, by simp [hnf]⟩
  simp [encodeFrame, this]

theorem mapM_none_of_mem {α β : Type} (f : α → Option β) (l : List α) (x : α) (hx : x ∈ l) (hf : f x = none) :
    l.mapM f = none := by
  induction l with
  | nil => simp at hx
  | cons a as ih =>
    simp only [List.mapM_cons]
    rcases List.mem_cons.mp hx with h | h
    · subst h; simp [hf]
    · cases f a with
      | none => rfl
      | some b => simp [ih h]

/-- excluded point 2: a member whose expiry the RFC 3339 writer refuses gets `expiresAt: ""`, which the client
    cannot parse: its report is rejected -/
theorem expiry_out_of_range_rejects_report (c : Conn)
    (hy : ¬ (0 ≤ yearOf c.expiresAt ∧ yearOf c.expiresAt ≤ 9999)) :
    (getStats c).expiresAt = "" ∧ decodeReport (encodeReport (getStats c)) = none := by
  have he : timeField c.expiresAt = "" := timeField_out_of_range _ hy
  refine ⟨he, ?_⟩
  rw [decodeReport_encodeReport]
  simp only [getStats, he, decTime_empty]
  cases decTime zeroTime (Json.str (timeField c.connected)) <;> rfl

/-- **K4**: one member with an expiry outside years 0..9999 (a correctly signed token can carry
    one) and the published client rejects the **whole** frame — every other member's report is
    lost with it — although the frame itself is produced. -/
theorem expiry_out_of_range_rejects_frame (cs : List Conn) (c : Conn) (hc : c ∈ cs)
    (hfinite : ∀ c ∈ cs, c.finite)
    (hy : ¬ (0 ≤ yearOf c.expiresAt ∧ yearOf c.expiresAt ≤ 9999)) :
    ∃ j, encodeFrame (cs.map getStats) = some j ∧ decodeFrame j = none := by
  obtain ⟨j, hj, hd⟩ := decodeFrame_encodeFrame _ (all_finite_getStats cs hfinite)
  refine ⟨j, hj, hd.trans ?_⟩
  refine mapM_none_of_mem _ _ (encodeReport (getStats c)) ?_ (expiry_out_of_range_rejects_report c hy).2
  exact List.mem_map.mpr ⟨getStats c, List.mem_map.mpr ⟨c, hc, rfl⟩, rfl⟩

/-- the full statement without the year restriction … -/
def ReportRoundtripAllYears : Prop :=
  ∀ c : Conn, c.wf → c.finite → decodeReport (encodeReport (getStats c)) = some (view c)

/-- a member of topic "123" connected on 2023-11-14 whose token expires at 10000-01-01T00:00:00Z -/
def k4Conn : Conn :=
  { topic := "123", canRead := true, canWrite := true, connected := ⟨1700000001, 2⟩,
    expiresAt := ⟨253402300800, 0⟩, remoteAddr := "", scopes := some ["read", "write"],
    userAgent := "Go-http-client/1.1", tx := ⟨0, 0, 0, 0⟩, rx := ⟨1, 1000000, 4617315517961601024, 4632233691727265792⟩ }

theorem k4_witness : k4Conn.wf ∧ k4Conn.finite ∧ (getStats k4Conn).expiresAt = "" ∧
    decodeReport (encodeReport (getStats k4Conn)) = none := by
  have hy : ¬ (0 ≤ yearOf k4Conn.expiresAt ∧ yearOf k4Conn.expiresAt ≤ 9999) := by decide
  have := expiry_out_of_range_rejects_report k4Conn hy
  exact ⟨⟨⟨by decide, by decide⟩, ⟨by decide, by decide⟩, by decide, by decide⟩,
    ⟨fun _ => by decide, fun _ => by decide⟩, this.1, this.2⟩

/-- … is false: K4 is the counterexample -/
theorem not_ReportRoundtripAllYears : ¬ ReportRoundtripAllYears := by
  intro h
  have := h k4Conn k4_witness.1 k4_witness.2.1
  rw [k4_witness.2.2.2] at this
  cases this

theorem decTmpS_encodeDetails (nar : Nat → Nat) (s : ReportStats) :
    decTmpS (encodeDetails nar s) = some { last := s.last, size := rest32 (nar s.size), fps := rest32 (nar s.fps) } := by
  simp only [decTmpS, encodeDetails, List.foldlM_append, foldlM_optF32, foldlM_optStr, assignTmpS_names, decFloat,
    decString, Option.map_some, rest32, Flt.zero]
  by_cases ha : isZero32 (nar s.fps) = true <;> by_cases hb : isZero32 (nar s.size) = true <;>
    by_cases hl : s.last = "" <;> simp [ha, hb, hl]

theorem rest_stats (nar : Nat → Nat) (cur : Statistics) (f : Frames) (hwf : f.wf) :
    decodeStatistics cur (encodeDetails nar (repStats f)) = some (restViewStats nar f) := by
  by_cases h : f.count > 0
  · simp only [repStats, restViewStats, h, if_true]
    exact decodeStatistics_seen cur _ f.since _ _ (decTmpS_encodeDetails nar _) hwf.1 hwf.2
  · simp only [repStats, restViewStats, h, if_false]
    exact decodeStatistics_never cur _ _ _ (decTmpS_encodeDetails nar _)

/-- **what the published client recovers from `GET /status`**: the REST schema names its fields
    `can_read, can_write, expires_at, remote_addr, user_agent`; `pkg/status` looks for `canRead, …`
    (no case folding bridges the underscore), so it sees only `connected`, `scopes`, `stats` and
    `topic` — those exactly (statistics at float32 precision) — and zero values for the rest. It never
    rejects the body. -/
theorem rest_decoded_by_status_client (nar : Nat → Nat) (c : Conn) (hwf : c.wf)
    (hy : 0 ≤ yearOf c.connected ∧ yearOf c.connected ≤ 9999) :
    decodeReport (encodeRest nar (getStats c)) = some (restView nar c) := by
  have hd := decTime_timeField zeroTime c.connected hwf.cns hy
  have hne : timeField c.connected ≠ "" := by
    intro e; rw [e, decTime_empty] at hd; cases hd
  -- the five members only the REST schema has leave the report as it is
  have hskip : ∀ k ∈ restOnlyNames, ∀ (r : Report) (v : Json), assignReport r (k, v) = some r :=
    fun k hk r v => assignReport_unknown r k v (restOnlyNames_unknown k hk)
  simp only [restOnlyNames, List.forall_mem_cons, List.not_mem_nil, false_imp_iff, implies_true, and_true] at hskip
  simp only [decodeReport, encodeRest, getStats, List.foldlM_append, List.foldlM_cons, List.foldlM_nil, foldlM_optBool,
    foldlM_optStr, hskip, ite_self, hne, if_false, assignReport_names, assignDir_names, zeroReport, hd,
    decStrings_encodeScopes, rest_stats nar _ _ hwf.rx, rest_stats nar _ _ hwf.tx, decString, Option.map_some,
    Option.bind_eq_bind, Option.bind_some, Option.pure_def]
  -- an empty topic is left out of the body, and the topic of the zero report is `""` already
  by_cases ht : c.topic = "" <;> simp [ht, restView, zeroReport]

/-- the full statement for the REST body … -/
def RestRoundtrip : Prop :=
  ∀ (nar : Nat → Nat) (c : Conn), c.wf → c.finite → c.yearsInRange →
    ∃ r, decodeReport (encodeRest nar (getStats c)) = some r ∧
      r.canRead = c.canRead ∧ r.canWrite = c.canWrite ∧ r.expiresAt = c.expiresAt ∧
      r.remoteAddr = c.remoteAddr ∧ r.userAgent = c.userAgent

/-- a readable member connected from 10.0.0.1 whose token expires on 2023-11-14T23:13:20Z -/
def restConn : Conn :=
  { topic := "123", canRead := true, canWrite := false, connected := ⟨1700000001, 2⟩,
    expiresAt := ⟨1700003600, 0⟩, remoteAddr := "10.0.0.1", scopes := some ["read"],
    userAgent := "Go-http-client/1.1", tx := ⟨0, 0, 0, 0⟩, rx := ⟨0, 0, 0, 0⟩ }

/-- … is false: through `GET /status` the published client sees every member as neither readable
    nor writable, with the zero expiry and no address / user agent -/
theorem not_RestRoundtrip : ¬ RestRoundtrip := by
  intro h
  have hwf : restConn.wf := ⟨⟨by decide, by decide⟩, ⟨by decide, by decide⟩, by decide, by decide⟩
  have hy : restConn.yearsInRange := ⟨by decide, by decide⟩
  obtain ⟨r, hr, h1, _⟩ := h id restConn hwf ⟨fun h => absurd h (by decide), fun h => absurd h (by decide)⟩ hy
  rw [rest_decoded_by_status_client id restConn hwf hy.1] at hr
  injection hr with hr
  subst hr
  exact absurd h1 (by decide)

/-- a numeric `last` (what re-marshalled client reports contain) is taken as nanoseconds, and
    leaves `Never` as it was -/
theorem numeric_last_is_ns (cur : Statistics) (n : Int) (size fps : Nat) (hlo : -2 ^ 63 ≤ n) (hhi : n < 2 ^ 63) :
    decodeStatistics cur (.obj [("last", .num (.int n)), ("size", .num (.f64 size)), ("fps", .num (.f64 fps))]) =
      some { last := n, size := .d size, fps := .d fps, never := cur.never } := by
  have hs : decTmpS (.obj [("last", .num (.int n)), ("size", .num (.f64 size)), ("fps", .num (.f64 fps))]) = none := by
    simp [decTmpS, List.foldlM, assignTmpS_names, decString]
  have hn : decTmpN (.obj [("last", .num (.int n)), ("size", .num (.f64 size)), ("fps", .num (.f64 fps))]) =
      some { last := n, size := .d size, fps := .d fps } := by
    have hr : -9223372036854775808 ≤ n ∧ n < 9223372036854775808 := by
      have h63 : (2 : Int) ^ 63 = 9223372036854775808 := by decide
      omega
    simp [decTmpN, List.foldlM, assignTmpN_names, decInt64, decFloat, hr]
  simp [decodeStatistics, hs, hn]

/-- a concrete member: reader/writer on topic "123", user agent with a quote, last sent 2.90373838 s
    ago, never received; the report is `…"stats":{"tx":{"last":"2.90373838s",…},"rx":{"last":"Never",…}}…` -/
def sampleConn : Conn :=
  { topic := "123", canRead := true, canWrite := true, connected := ⟨1678457085, 294633437⟩,
    expiresAt := ⟨1678457115, 0⟩, remoteAddr := "10.0.0.1, 192.168.0.7", scopes := some ["read", "write"],
    userAgent := "a\"b", tx := ⟨3, 2903738380, 4617315517961601024, 4626374886658797765⟩, rx := ⟨0, 0, 0, 0⟩ }

example : (getStats sampleConn).connected = "2023-03-10T14:04:45.294633437Z" ∧
    (getStats sampleConn).tx.last = "2.90373838s" ∧ (getStats sampleConn).rx.last = "Never" := by decide +kernel

example : decodeReport (encodeReport (getStats sampleConn)) = some (view sampleConn) ∧
    (view sampleConn).rx.never = true ∧ (view sampleConn).tx.last = 2903738380 := by
  have hwf : sampleConn.wf := ⟨⟨by decide, by decide⟩, ⟨by decide, by decide⟩, by decide, by decide⟩
  have hfin : sampleConn.finite := ⟨fun _ => by decide, fun h => absurd h (by decide)⟩
  exact ⟨report_roundtrip sampleConn hwf hfin ⟨by decide, by decide⟩, by decide, by decide⟩

end Status
