import Relay.Props.HubInv
import Relay.Model.Path

/-!
# C03 — topics are isolated and senders do not hear themselves

`isolation`, `no_echo`, `names_unique` are for every event history `evs` (any number of topics and connections,
any interleaving of joins, leaves, sends and queue drains).
-/

namespace Hub

/-- **isolation**: everything ever delivered to a member was sent on exactly the member's topic
    (string equality: prefixes, extra path segments etc. are different topics). -/
theorem isolation (evs : List Ev) : ∀ c ∈ (run evs).members, ∀ m ∈ c.delivered, m.topic = c.topic :=
  fun c hc m hm => ((run_inv evs).good c hc).own m hm |>.1

/-- **no echo**: nothing delivered to a member was sent by that member. -/
theorem no_echo (evs : List Ev) : ∀ c ∈ (run evs).members, ∀ m ∈ c.delivered, m.sender ≠ c.name :=
  fun c hc m hm => ((run_inv evs).good c hc).own m hm |>.2

/-- names are unique, so the sender filter suppresses the sender only, never another member -/
theorem names_unique (evs : List Ev) : (run evs).members.Pairwise (fun a b => a.name ≠ b.name) :=
  (run_inv evs).nodup

/-- what the broadcast case of `Hub.run` does with one member, written out -/
theorem offer_eq (c : Client) (m : Msg) :
    offer c m =
      if c.topic = m.topic ∧ c.name ≠ m.sender then
        (if c.queue.length < c.cap
         then some { c with queue := c.queue ++ [m], delivered := c.delivered ++ [m] } else none)
      else some c := by
  simp only [← wants_iff, ← hasRoom_iff]
  rfl

/-- **delivery rule, one broadcast** (both directions): `m` is delivered to member `c` iff `c` is
    filed under exactly `m.topic` (string equality), is not the sender, and has room in its queue. -/
theorem deliver_iff (c : Client) (m : Msg) :
    (∃ c', offer c m = some c' ∧ c'.delivered = c.delivered ++ [m]) ↔
      (c.topic = m.topic ∧ c.name ≠ m.sender ∧ c.queue.length < c.cap) := by
  constructor
  · rintro ⟨c', h, hd⟩
    rcases offer_some h with ⟨_, rfl⟩ | ⟨hw, hr, _⟩
    · exact absurd (congrArg List.length hd) (by simp)
    · exact ⟨((wants_iff c m).1 hw).1, ((wants_iff c m).1 hw).2, (hasRoom_iff c).1 hr⟩
  · rintro ⟨h1, h2, h3⟩
    exact ⟨_, offer_enqueue ((wants_iff c m).2 ⟨h1, h2⟩) ((hasRoom_iff c).2 h3), rfl⟩

/-- a member that should get `m` but has no room is dropped (never silently skipped) -/
theorem dropped_iff (c : Client) (m : Msg) :
    offer c m = none ↔ (c.topic = m.topic ∧ c.name ≠ m.sender ∧ ¬ c.queue.length < c.cap) := by
  rw [offer_none_iff, wants_iff, and_assoc, ← hasRoom_iff, Bool.not_eq_true]

/-- any other member is left exactly as it was -/
theorem untouched_iff (c : Client) (m : Msg) (h : ¬ (c.topic = m.topic ∧ c.name ≠ m.sender)) :
    offer c m = some c :=
  offer_skip (Bool.eq_false_iff.2 fun hw => h ((wants_iff c m).1 hw))

/-- the fan-out never creates members and never changes a member's topic, name or capabilities -/
theorem broadcast_members_sub (h : Hub) (m : Msg) :
    ∀ c' ∈ (broadcast h m).members, ∃ c ∈ h.members, c'.name = c.name ∧ c'.topic = c.topic ∧
      c'.canRead = c.canRead ∧ c'.canWrite = c.canWrite := by
  intro c' hc'
  obtain ⟨c, hc, ho⟩ := mem_broadcast.1 hc'
  have hs := offer_same ho
  exact ⟨c, hc, hs.name, hs.topic, hs.canRead, hs.canWrite⟩

/-- a connection that is not a member is never relayed from: an inbound message attributed to a name
    that is not registered changes nothing (C01: unjoined connections never send). -/
theorem unjoined_never_relays (h : Hub) (n : Nat) (d : List Nat) (mt : Nat)
    (hn : findMember h n = none) : step h (.inbound n d mt) = h := by
  simp [step, hn]

/-! non-vacuity: two topics sharing a prefix, a sender with a peer on its topic -/
example :
    let evs := [Ev.register "a" "b1" true true 2, .register "a" "b2" true false 2,
                .register "a/b" "b3" true true 2, .inbound 0 [1, 2] 1, .inbound 2 [9] 1, .drain 1 0]
    ((run evs).members.map fun c => (c.name, c.delivered.map (·.data), frames c))
      = [(0, [], []), (1, [[1, 2]], [[1, 2]]), (2, [], [])] := by decide +kernel

end Hub

namespace Path

/-- every character of an extracted topic is in the topic class (so a topic never contains `?`, `#`,
    blanks, …) -/
theorem topic_chars (p : List Char) : ∀ c ∈ topicOf p, cls2 c = true := by
  intro c hc
  unfold topicOf at hc
  split at hc
  · split at hc
    · rename_i t _
      have hall : (t.takeWhile cls2).all cls2 = true := List.all_takeWhile
      exact List.all_eq_true.1 hall c hc
    · simp at hc
  · simp at hc

/-- the path always gets exactly one leading slash -/
theorem slashify_head (p : List Char) : (slashify p).head? = some '/' := rfl

/-! spelling examples (tests, not theorems): trailing slash is the same topic; a longer path, a
    prefix and a different segment are different topics -/
example : topicOf (slashify "/session/abc/".toList) = topicOf (slashify "session/abc".toList) := by decide +kernel
example : topicOf (slashify "/session/abc/d".toList) ≠ topicOf (slashify "/session/abc".toList) := by decide +kernel
example : topicOf (slashify "/session/ab".toList) ≠ topicOf (slashify "/session/abc".toList) := by decide +kernel
example : (route "/session/a%2Fb-c_d.e?x".toList) = ("session".toList, "a%2Fb-c_d.e".toList) := by decide +kernel

end Path
