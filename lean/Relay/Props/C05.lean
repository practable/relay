import Relay.Props.HubInv
import Relay.Extracted.Handlers

/-!
# C05 — relayed data arrives complete, ordered and intact, or the reader is dropped

The statements with `evs` are for every event history (any mix of writers and readers, message sizes, drain points —
i.e. every way the per-connection writer interleaves with the hub — and per-client buffer sizes).
-/

namespace Hub

/-- **whole messages, in order, no split**: for a reader, the frames written so far are built from
    consecutive blocks of the delivered messages; the blocks, followed by what is still queued, are
    exactly the delivered list (nothing lost, duplicated or reordered between hub and socket). -/
theorem frame_is_whole_messages (evs : List Ev) :
    ∀ c ∈ (run evs).members, c.canRead = true →
      c.blocks.flatten ++ c.queue = c.delivered ∧ frames c = c.blocks.map bytes := by
  intro c hc hr
  exact ⟨((run_inv evs).good c hc).rd hr, rfl⟩

/-- **byte-stream integrity**: the bytes a reader has received, followed by the bytes still queued
    for it, are exactly the concatenation of the whole messages delivered to it, in order. -/
theorem stream_integrity (evs : List Ev) :
    ∀ c ∈ (run evs).members, c.canRead = true →
      (frames c).flatten ++ bytes c.queue = bytes c.delivered := by
  intro c hc hr
  have h := ((run_inv evs).good c hc).rd hr
  rw [← h, bytes_append, bytes_flatten]
  rfl

/-- **complete, ordered, no duplicates (no silent skip)**: what has been delivered to a member is
    exactly the sub-sequence — in hub order — of all messages broadcast since it joined that are on its
    topic and not its own. A member that is still connected has missed nothing. -/
theorem delivered_exact (evs : List Ev) :
    ∀ c ∈ (run evs).members,
      c.delivered = ((run evs).sent.drop c.joinedAt).filter (wantsTN c.topic c.name) :=
  fun c hc => ((run_inv evs).good c hc).exact

/-- **per-writer FIFO**: the messages of one writer `w` appear at a member in the order `w` sent them
    (as sub-sequence of the hub log), each exactly once. -/
theorem per_sender_fifo (evs : List Ev) (w : Nat) :
    ∀ c ∈ (run evs).members,
      c.delivered.filter (fun m => m.sender == w)
        = ((run evs).sent.drop c.joinedAt).filter (fun m => wantsTN c.topic c.name m && m.sender == w) := by
  intro c hc
  rw [delivered_exact evs c hc, List.filter_filter]
  congr 1
  funext m
  exact Bool.and_comm _ _

/-- **dropped, never skipped**: in one broadcast every member that should get the message either gets
    it appended to its queue or is removed from the hub in that very step. -/
theorem no_silent_skip (h : Hub) (m : Msg) (c : Client) (hc : c ∈ h.members) (hw : wants c m = true) :
    (∃ c' ∈ (broadcast h m).members, c'.name = c.name ∧ c'.queue = c.queue ++ [m]) ∨
    (c ∈ (broadcast h m).gone ∧ ¬ c.queue.length < c.cap) := by
  by_cases hr : hasRoom c = true
  · exact .inl ⟨_, mem_broadcast.2 ⟨c, hc, offer_enqueue hw hr⟩, rfl, rfl⟩
  · exact .inr ⟨List.mem_append_right _ (mem_evicted.2 ⟨hc, hw, Bool.eq_false_iff.2 hr⟩),
      fun h => hr ((hasRoom_iff c).2 h)⟩

/-- a member is dropped by the hub only because of its OWN backlog (fault confinement, C08): the
    fan-out removes `c` only when `c` itself wants the message and `c`'s own queue is full. -/
theorem evicted_only_own_backlog (h : Hub) (m : Msg) (c : Client) (hc : c ∈ evicted h.members m) :
    c ∈ h.members ∧ wants c m = true ∧ ¬ c.queue.length < c.cap := by
  obtain ⟨h1, h2, h3⟩ := mem_evicted.1 hc
  exact ⟨h1, h2, fun h => by rw [(hasRoom_iff c).2 h] at h3; cases h3⟩

/-- and a member with room, or not concerned by the message, stays a member -/
theorem stays_member (h : Hub) (m : Msg) (c : Client) (hc : c ∈ h.members)
    (hk : wants c m = false ∨ c.queue.length < c.cap) :
    ∃ c' ∈ (broadcast h m).members, c'.name = c.name := by
  cases ho : offer c m with
  | some c' => exact ⟨c', mem_broadcast.2 ⟨c, hc, ho⟩, (offer_same ho).name⟩
  | none =>
    obtain ⟨hw, hr⟩ := (offer_none_iff c m).1 ho
    rcases hk with hk | hk
    · rw [hw] at hk; cases hk
    · rw [(hasRoom_iff c).2 hk] at hr; cases hr

/-! non-vacuity: two writers, a reader draining at uneven points (frames merge 2 messages), and a
    reader with buffer 1 that falls behind and is dropped -/
example :
    let evs := [Ev.register "t" "" true false 8, .register "t" "" false true 8, .register "t" "" false true 8,
                .register "t" "" true false 1,
                .inbound 1 [1] 1, .inbound 2 [2, 2] 1, .drain 0 1, .inbound 1 [3] 1, .drain 0 5]
    ((run evs).members.map fun c => (c.name, frames c, c.queue.length)) =
        [(0, [[1, 2, 2], [3]], 0), (1, [], 1), (2, [], 2)]
      ∧ (run evs).gone.map (·.name) = [3] := by decide +kernel

/-- **source obligation**: the bytes a connection hands to the hub are the slice `ReadMessage()` returned for that frame —
    freshly allocated per frame by the websocket library and never written again — not a pooled, reused or re-sliced buffer.
    The model's messages are immutable values; this is what makes that faithful (a queued frame cannot change under the
    reader, and cannot turn into another topic's frame). -/
theorem frames_are_fresh_slices :
    Extracted.readPumpFrameSource = ["data:data", "data[1/3] := c.conn.ReadMessage()"] := rfl

end Hub
