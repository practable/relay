import Relay.Props.HubInv
import Relay.Extracted.Handlers

/-!
# C04 — read and write scopes are enforced on every connection
-/

namespace Hub

/-- **non-writer is silent**: an inbound message from a member without the write capability changes
    nothing in the hub — no queue, no ghost log, no membership — in any state. -/
theorem nonwriter_silent (h : Hub) (n : Nat) (d : List Nat) (mt : Nat) (c : Client)
    (hc : findMember h n = some c) (hw : c.canWrite = false) : step h (.inbound n d mt) = h := by
  simp [step, hc, hw]

/-- so over any history, every message the hub ever broadcast came from a member that could write
    at that moment (stated on the ghost log: it grows only through a writer's inbound event) -/
theorem sent_grows_only_by_writers (h : Hub) (e : Ev) :
    (step h e).sent = h.sent ∨
    ∃ n d mt c, e = .inbound n d mt ∧ findMember h n = some c ∧ c.canWrite = true ∧
      (step h e).sent = h.sent ++ [{ sender := c.name, topic := c.topic, data := d, mt := mt }] := by
  cases e with
  | register t b r w cap => left; rfl
  | unregister n => left; rfl
  | drain n k => left; rfl
  | inbound n d mt =>
    cases hf : findMember h n with
    | none => left; simp [step, hf]
    | some c =>
      by_cases hw : c.canWrite = true
      · right; exact ⟨n, d, mt, c, rfl, hf, hw, by simp [step, hf, hw, broadcast]⟩
      · left; simp [step, hf, hw]

/-- **non-reader is deaf**: for every history, nothing has ever been written to the socket of a
    member without the read capability. -/
theorem nonreader_deaf (evs : List Ev) :
    ∀ c ∈ (run evs).members, c.canRead = false → frames c = [] := by
  intro c hc hr
  have := ((run_inv evs).good c hc).nrd hr
  simp [frames, this]

/-- capabilities never change after registration: a later event cannot add a capability -/
theorem caps_fixed (h : Hub) (e : Ev) :
    ∀ c' ∈ (step h e).members, (∃ c ∈ h.members, c'.name = c.name ∧ c'.canRead = c.canRead ∧ c'.canWrite = c.canWrite)
      ∨ (∃ t b r w cap, e = .register t b r w cap ∧ c'.name = h.next ∧ c'.canRead = r ∧ c'.canWrite = w) := by
  intro c' hc'
  rcases step_members h e c' hc' with ⟨c, hc, hs⟩ | ⟨t, b, r, w, cap, he, rfl⟩
  · exact .inl ⟨c, hc, hs.name, hs.canRead, hs.canWrite⟩
  · exact .inr ⟨t, b, r, w, cap, he, rfl, rfl, rfl⟩

/-! ### the scope function of `serveWs` -/

/-- **neither scope ⇒ not admitted**, and admission needs exactly one of the two strings -/
theorem no_scope_no_admission (scopes : List String) :
    admittedScopes scopes = true ↔ ("read" ∈ scopes ∨ "write" ∈ scopes) := by
  simp [admittedScopes, canReadOf, canWriteOf]

/-- **extra or unknown scopes never add capabilities**: adding, duplicating or permuting scopes other
    than the exact strings `read` / `write` changes neither capability. -/
theorem scopes_only_read_write (s1 s2 : List String)
    (h : ∀ x, (x = "read" ∨ x = "write") → (x ∈ s1 ↔ x ∈ s2)) :
    canReadOf s1 = canReadOf s2 ∧ canWriteOf s1 = canWriteOf s2 := by
  have hr := h "read" (Or.inl rfl)
  have hw := h "write" (Or.inr rfl)
  constructor
  · simp only [canReadOf, List.contains_eq_mem, decide_eq_decide]; exact hr
  · simp only [canWriteOf, List.contains_eq_mem, decide_eq_decide]; exact hw

/-! non-vacuity: a non-writer's message goes nowhere; a non-reader hears nothing although queued -/
example :
    let evs := [Ev.register "t" "" true false 4, .register "t" "" false true 4, .register "t" "" true true 4,
                .inbound 0 [7] 1, .inbound 2 [8] 1, .drain 1 0, .drain 0 0]
    ((run evs).members.map fun c => (c.name, c.delivered.map (·.data), frames c))
      = [(0, [[8]], [[8]]), (1, [[8]], []), (2, [], [])] := by decide

example : canReadOf ["Read", "read ", "relay:admin"] = false ∧ canWriteOf ["x", "write", "write"] = true := by decide

/-- **source obligation**: in the pumps of the current source the ONLY guard on the way from a websocket to the hub is the
    connection's write capability, and the ONLY guard on the way from the hub queue to the websocket is its read capability —
    no topic, name or scope-string exception (the model's `canWrite` / `canRead` tests are exactly these). -/
theorem pumps_guard_scopes :
    Extracted.readPumpGuards = [("send:c.hub.broadcast", "c.canWrite")] ∧
    Extracted.writePumpGuards = [("c.conn.WriteMessage(websocket.CloseMessage)", "!ok"), ("c.conn.NextWriter", "c.canRead"),
      ("w.Write", "c.canRead"), ("w.Write", "c.canRead"), ("c.conn.WriteMessage(websocket.PingMessage)", "")] :=
  ⟨rfl, rfl⟩

end Hub
