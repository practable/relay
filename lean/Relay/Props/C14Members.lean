import Relay.Props.C07Seq

/-!
# C14, membership half — the status report lists exactly the joined connections, truthfully

`reportOf s` is what `GET /status` and the stats topic are computed from (`Hub.GetStats` walks the
membership table under the hub lock; the relay's own stats feeder is the one extra, constant entry).
For every history of relay operations: every joined connection has exactly one report entry, carrying
the topic it is filed under, the capabilities derived from its token's scopes, and the scopes, expiry,
user agent and forwarded address recorded at admission; nothing else is listed.
-/

namespace Relay
open Access

structure Entry where
  name : Nat
  topic : String
  canRead : Bool
  canWrite : Bool
  scopes : List String
  exp : Int
  ua : String
  remote : String
deriving Repr, DecidableEq

/-- the report: one entry per current hub member, joined with the metadata recorded at admission -/
def reportOf (s : St) : List Entry :=
  s.hub.members.filterMap fun c =>
    (s.info.find? (·.name == c.name)).map fun i =>
      { name := c.name, topic := c.topic, canRead := c.canRead, canWrite := c.canWrite,
        scopes := i.scopes, exp := i.exp, ua := i.ua, remote := i.remote }

/-- `fresh` is what keeps `uniq` when a connection joins under the hub's next name -/
structure InfoInv (s : St) : Prop where
  cover : ∀ c ∈ s.hub.members, ∃ i ∈ s.info, i.name = c.name ∧
            c.canRead = Hub.canReadOf i.scopes ∧ c.canWrite = Hub.canWriteOf i.scopes
  fresh : ∀ i ∈ s.info, i.name < s.hub.next
  uniq : s.info.Pairwise (fun a b => a.name ≠ b.name)
  hubinv : Hub.HubInv s.hub

theorem hubev_inv (s : St) (e : Hub.Ev) (hreg : ∀ t b r w cap, e ≠ .register t b r w cap) (hI : InfoInv s) :
    InfoInv { s with hub := Hub.step s.hub e } := by
  refine { cover := fun c' hc' => ?_
           fresh := fun i hi => Nat.lt_of_lt_of_le (hI.fresh i hi) (Hub.step_next_le s.hub e)
           uniq := hI.uniq
           hubinv := Hub.step_inv s.hub e hI.hubinv }
  obtain ⟨c, hcm, hs⟩ := Hub.step_members_kept s.hub e hreg c' hc'
  obtain ⟨i, hi, h1, h2, h3⟩ := hI.cover c hcm
  exact ⟨i, hi, by rw [h1, hs.name], by rw [hs.canRead, h2], by rw [hs.canWrite, h3]⟩

theorem eff_inv_info (cfg : Config) (s s' : St) (hI : InfoInv s) (h : Eff cfg s s') : InfoInv s' := by
  have same : ∀ s' : St, s'.hub = s.hub → s'.info = s.info → InfoInv s' := by
    intro s' h1 h2
    exact { cover := by rw [h1, h2]; exact hI.cover
            fresh := by rw [h1, h2]; exact hI.fresh
            uniq := by rw [h2]; exact hI.uniq
            hubinv := by rw [h1]; exact hI.hubinv }
  cases h with
  | same => exact hI
  | tick t | grant b id hfv | allow k e | spend c | prune | sweep => exact same _ rfl rfl
  | deny k e =>
    -- the membership table is filtered; nothing else that the invariant reads changes
    exact { cover := fun c hcm => hI.cover c (mem_denyAct_members.1 hcm).1
            fresh := hI.fresh
            uniq := hI.uniq
            hubinv := { good := fun c hcm => hI.hubinv.good c (mem_denyAct_members.1 hcm).1
                        nodup := List.Pairwise.filter _ hI.hubinv.nodup } }
  | join path c e pt ua remote hf hexp hpt hA =>
    obtain ⟨hcv, hfr, hu, hh⟩ := hI
    refine { cover := ?_, fresh := ?_, uniq := ?_
             hubinv := Hub.step_inv s.hub (.register pt.topic pt.bid (Hub.canReadOf pt.scopes) (Hub.canWriteOf pt.scopes) cfg.cap) hh }
    · intro m hm
      simp only [afterJoin, Hub.step, List.mem_append, List.mem_singleton] at hm
      rcases hm with hm | hm
      · obtain ⟨i, hi, h1, h2, h3⟩ := hcv m hm
        exact ⟨i, List.mem_append_left _ hi, h1, h2, h3⟩
      · subst hm
        exact ⟨_, List.mem_concat_self, rfl, rfl, rfl⟩
    · intro i hi
      rcases List.mem_append.1 hi with hi | hi
      · exact Nat.lt_succ_of_lt (hfr i hi)
      · rw [List.mem_singleton.1 hi]; exact Nat.lt_succ_self _
    · exact List.pairwise_append.2 ⟨hu, List.pairwise_singleton _ _, fun a ha b hb =>
        List.mem_singleton.1 hb ▸ Nat.ne_of_lt (hfr a ha)⟩
  | hub ev hreg => exact hubev_inv s ev hreg hI

theorem run_inv_info (cfg : Config) (ops : List Op) : InfoInv (run cfg ops) :=
  run_induction cfg ⟨by simp, by simp, .nil, Hub.inv_init⟩ (eff_inv_info cfg) ops

theorem filterMap_eq_map {α β : Type} {f : α → Option β} {g : α → β} {l : List α}
    (h : ∀ a ∈ l, f a = some (g a)) : l.filterMap f = l.map g := by
  induction l with
  | nil => rfl
  | cons a l ih =>
    rw [List.filterMap_cons, h a List.mem_cons_self, List.map_cons, ih fun b hb => h b (List.mem_cons_of_mem _ hb)]

/-- **the report lists exactly the joined connections**: for every history, the names reported are
    exactly the names of the current hub members (one entry each, in the same order), and each entry shows
    the member's own topic and capabilities, the latter being those of the scopes recorded from its token. -/
theorem status_lists_exactly_members (cfg : Config) (ops : List Op) :
    let s := run cfg ops
    (reportOf s).map (·.name) = s.hub.members.map (·.name) ∧
    ∀ e ∈ reportOf s, ∃ c ∈ s.hub.members, e.name = c.name ∧ e.topic = c.topic ∧
      e.canRead = c.canRead ∧ e.canWrite = c.canWrite ∧
      e.canRead = Hub.canReadOf e.scopes ∧ e.canWrite = Hub.canWriteOf e.scopes := by
  intro s
  have hI := run_inv_info cfg ops
  have hfind : ∀ c ∈ s.hub.members, ∃ i, s.info.find? (·.name == c.name) = some i ∧
      c.canRead = Hub.canReadOf i.scopes ∧ c.canWrite = Hub.canWriteOf i.scopes := by
    intro c hc
    obtain ⟨i, hi, h1, h2, h3⟩ := hI.cover c hc
    have := Hub.find?_name hI.uniq hi
    rw [h1] at this
    exact ⟨i, this, h2, h3⟩
  constructor
  · unfold reportOf
    rw [List.map_filterMap]
    refine filterMap_eq_map fun c hc => ?_
    obtain ⟨i, hi, _⟩ := hfind c hc
    simp only [hi, Option.map_some]
  · intro e he
    simp only [reportOf, List.mem_filterMap] at he
    obtain ⟨c, hc, hopt⟩ := he
    obtain ⟨i, hi, h2, h3⟩ := hfind c hc
    rw [hi] at hopt
    simp only [Option.map_some, Option.some.injEq] at hopt
    subst hopt
    exact ⟨c, hc, rfl, rfl, rfl, rfl, h2, h3⟩

/-- a connection that has left (closed, denied, dropped for its backlog) is no longer reported -/
theorem gone_not_reported (cfg : Config) (ops : List Op) (n : Nat) :
    let s := step cfg (run cfg ops) (.close n)
    ∀ e ∈ reportOf s, e.name ≠ n := by
  intro s e he
  simp only [reportOf, List.mem_filterMap] at he
  obtain ⟨c, hc, hopt⟩ := he
  have hcn : c.name ≠ n := by
    simp only [s, step, Hub.step, List.mem_filter, bne_iff_ne, ne_eq] at hc
    exact hc.2
  cases hf : (s.info.find? fun x => x.name == c.name) with
  | none => rw [hf] at hopt; cases hopt
  | some i => rw [hf] at hopt; simp only [Option.map_some, Option.some.injEq] at hopt; subst hopt; exact hcn

end Relay
