import Relay.Model.ChanMap

/-!
# C08 (cancel-channel bookkeeping part; also used by C07 and C13)

For every operation history that follows the hub's discipline (fresh connection name and fresh channel
per `add` — `Disc`):
* `chanmap_never_panics`     no operation panics (no close of a closed channel, no nil-map write)
* `chanmap_consistent`       `ParentByChild[c] = p` iff the binding `(p, c)` exists (the invariant whose
                             failure in `deleteAndOptionalCloseParent` was the defect repaired by fa1e809)
* `delparent_closes_exactly` closing a parent closes exactly its live children's channels, others untouched
* `delchild_removes`         a child whose `delChild` has run is in neither table
-/

namespace ChanMap
open KV

theorem mem_dropKey (es : List Ent) (p c : String) (e : Ent) :
    e ∈ dropKey es p c ↔ e ∈ es ∧ ¬ (e.p = p ∧ e.c = c) := by
  rw [dropKey, List.mem_filter, Bool.not_eq_true', decide_eq_false_iff_not]

theorem mem_dropParent (es : List Ent) (p : String) (e : Ent) :
    e ∈ dropParent es p ↔ e ∈ es ∧ e.p ≠ p := by
  simp [dropParent, List.mem_filter]

theorem mem_ofParent (es : List Ent) (p : String) (e : Ent) :
    e ∈ ofParent es p ↔ e ∈ es ∧ e.p = p := by
  simp [ofParent, List.mem_filter]

theorem findEnt_eq_find (es : List Ent) (p c : String) :
    findEnt es p c = es.find? (fun e => e.p = p ∧ e.c = c) := by
  induction es with
  | nil => rfl
  | cons x xs ih =>
    rw [findEnt, List.find?_cons, ih]
    by_cases hx : x.p = p ∧ x.c = c <;> simp [hx]

theorem findEnt_some (es : List Ent) (p c : String) (e : Ent) (h : findEnt es p c = some e) :
    e ∈ es ∧ e.p = p ∧ e.c = c := by
  rw [findEnt_eq_find] at h
  have hkey := List.find?_some h
  exact ⟨List.mem_of_find?_eq_some h, of_decide_eq_true hkey⟩

theorem findEnt_none (es : List Ent) (p c : String) (h : findEnt es p c = none) :
    ∀ e ∈ es, ¬ (e.p = p ∧ e.c = c) := by
  rw [findEnt_eq_find, List.find?_eq_none] at h
  exact fun e he hk => h e he (decide_eq_true hk)

theorem lookup_eraseAll (m : KV String) (cs : List String) (k : String) :
    lookup (eraseAll m cs) k = if k ∈ cs then none else lookup m k := by
  induction cs generalizing m with
  | nil => simp [eraseAll]
  | cons c cs ih =>
    simp only [eraseAll, ih, lookup_erase, List.mem_cons]
    by_cases h1 : k ∈ cs
    · simp [h1]
    · by_cases h2 : c = k
      · simp [h2]
      · simp [h1, h2, Ne.symm h2]

theorem nodup_eraseAll (m : KV String) (ks : List String) (h : KV.NoDupKeys m) : KV.NoDupKeys (eraseAll m ks) := by
  induction ks generalizing m with
  | nil => exact h
  | cons k ks ih => exact ih _ (KV.nodup_erase m k h)

/-- `l` can be closed one channel after the other, starting from `closed`, without a panic -/
def CanClose (closed l : List Nat) : Prop := l.Nodup ∧ ∀ x ∈ l, x ∉ closed

theorem closeAll_of_canClose (closed l : List Nat) (h : CanClose closed l) :
    closeAll closed l = some (l.reverse ++ closed) := by
  induction l generalizing closed with
  | nil => rfl
  | cons a l ih =>
    obtain ⟨hn, hd⟩ := h
    have hn' := List.nodup_cons.1 hn
    have ha : a ∉ closed := hd a List.mem_cons_self
    have : CanClose (a :: closed) l := by
      refine ⟨hn'.2, fun x hx => ?_⟩
      simp only [List.mem_cons, not_or]
      exact ⟨fun e => hn'.1 (e ▸ hx), hd x (List.mem_cons_of_mem _ hx)⟩
    simp only [closeAll, ha, if_false, ih _ this, List.reverse_cons, List.append_assoc, List.singleton_append]

theorem nodup_map_on {β γ : Type} (f : β → γ) (l : List β) (hn : l.Nodup)
    (hinj : ∀ x ∈ l, ∀ y ∈ l, f x = f y → x = y) : (l.map f).Nodup := by
  rw [List.Nodup, List.pairwise_map]
  exact hn.imp_of_mem (fun hx hy hne hf => hne (hinj _ hx _ hy hf))

theorem step_add_ne_panic (m : St) (p c : String) (ch : Nat) : (step m (.add p c ch)).2 ≠ .panic := by
  by_cases hp : p = "" <;> by_cases hc : c = "" <;> simp [step, hp, hc]

theorem step_add_noparent (m : St) (p c : String) (ch : Nat) (hp : p = "") : (step m (.add p c ch)).1 = m := by
  simp [step, hp]

theorem step_add_ok (m : St) (p c : String) (ch : Nat) (hp : p ≠ "") (hc : c ≠ "") :
    step m (.add p c ch) =
      ({ m with ents := { p := p, c := c, ch := ch } :: dropKey m.ents p c, parentOf := KV.insert m.parentOf c p,
                usedC := c :: m.usedC, usedCh := ch :: m.usedCh }, .ok) := by
  simp only [step, hp, hc, if_false]

theorem step_delChild_ne_panic (m : St) (c : String) : (step m (.delChild c false)).2 ≠ .panic := by
  -- the one panic of `delChild` is the close of a closed channel, and nothing is closed here
  by_cases hc : c = ""
  · simp [step, hc]
  simp only [step, hc, if_false, Bool.false_eq_true]
  cases KV.lookup m.parentOf c with
  | none => simp
  | some p => cases hf : findEnt m.ents p c <;> simp [hf]

theorem step_delChild_nochild (m : St) (c : String) (hc : c = "") : (step m (.delChild c false)).1 = m := by
  simp [step, hc]

theorem step_delChild_mem (m : St) (c : String) (hc : c ≠ "") (e : Ent) :
    e ∈ (step m (.delChild c false)).1.ents ↔ e ∈ m.ents ∧ ¬ (KV.lookup m.parentOf c = some e.p ∧ e.c = c) := by
  simp only [step, hc, if_false, Bool.false_eq_true]
  cases hl : KV.lookup m.parentOf c with
  | none => simp
  | some p =>
    cases hf : findEnt m.ents p c with
    | none =>
      simp only [hf, Option.some.injEq]
      exact ⟨fun he => ⟨he, fun hx => findEnt_none _ _ _ hf e he ⟨hx.1.symm, hx.2⟩⟩, And.left⟩
    | some e' => simp only [hf, Option.some.injEq, mem_dropKey, @eq_comm _ p e.p]

theorem step_delChild_parentOf (s : St) (c : String) (cl : Bool) (hc : c ≠ "")
    (hnp : (step s (.delChild c cl)).2 ≠ .panic) : (step s (.delChild c cl)).1.parentOf = erase s.parentOf c := by
  simp only [step, hc, if_false] at hnp ⊢
  cases hl : lookup s.parentOf c with
  | none => exact (erase_absent _ _ hl).symm
  | some p =>
    cases hf : findEnt s.ents p c with
    | none => simp only [hf]
    | some e =>
      simp only [hl, hf] at hnp ⊢
      cases cl with
      | false => rfl
      | true =>
        by_cases hcl : e.ch ∈ s.closed
        · simp [hcl] at hnp
        · simp only [if_true, hcl, if_false]

structure Inv (s : St) : Prop where
  a : ∀ e ∈ s.ents, lookup s.parentOf e.c = some e.p
  b : ∀ c p, lookup s.parentOf c = some p → ∃ e ∈ s.ents, e.p = p ∧ e.c = c
  c : ∀ e ∈ s.ents, e.ch ∉ s.closed ∧ e.c ∈ s.usedC ∧ e.ch ∈ s.usedCh
  d : ∀ x ∈ s.ents, ∀ y ∈ s.ents, (x.c = y.c ∨ x.ch = y.ch) → x = y
  n : s.ents.Nodup
  e : ∀ ch ∈ s.closed, ch ∈ s.usedCh

theorem inv_init : Inv {} :=
  ⟨by simp, by simp, by simp, by simp, List.nodup_nil, by simp⟩

/-- the discipline condition for one operation -/
def okOp (s : St) : Op → Prop
  | .add _ c ch => c ∉ s.usedC ∧ ch ∉ s.usedCh
  | _ => True

theorem canClose_ofParent (s : St) (h : Inv s) (p : String) : CanClose s.closed ((ofParent s.ents p).map (·.ch)) := by
  refine ⟨nodup_map_on _ _ (List.Nodup.sublist List.filter_sublist h.n)
    (fun x hx y hy hxy => h.d x ((mem_ofParent _ _ _).1 hx).1 y ((mem_ofParent _ _ _).1 hy).1 (Or.inr hxy)), ?_⟩
  intro x hx
  obtain ⟨m, hm, rfl⟩ := List.mem_map.1 hx
  exact (h.c m ((mem_ofParent _ _ _).1 hm).1).1

/-- Both deletions remove the bindings picked out by some test `rem`. The invariant survives when the reverse map
    forgets exactly the removed children and nothing is newly closed but channels of removed bindings. -/
theorem inv_remove (s : St) (h : Inv s) (rem : Ent → Prop) (ents' : List Ent) (par' : KV String) (closed' : List Nat)
    (hsub : ents'.Sublist s.ents) (hmem : ∀ e, e ∈ ents' ↔ e ∈ s.ents ∧ ¬ rem e)
    (hgone : ∀ e ∈ s.ents, rem e → lookup par' e.c = none)
    (hkept : ∀ k, (∀ e ∈ s.ents, rem e → e.c ≠ k) → lookup par' k = lookup s.parentOf k)
    (hcl : ∀ x ∈ closed', x ∈ s.closed ∨ ∃ e ∈ s.ents, rem e ∧ e.ch = x) :
    Inv { s with ents := ents', parentOf := par', closed := closed' } := by
  obtain ⟨ha, hb, hc, hd, hn, he⟩ := h
  -- a kept binding shares neither its child name nor its channel with a removed one (`Inv.d`)
  have apart : ∀ e ∈ ents', ∀ m ∈ s.ents, rem m → m.c ≠ e.c ∧ m.ch ≠ e.ch := by
    intro e he' m hm hr
    obtain ⟨h1, h2⟩ := (hmem e).1 he'
    exact ⟨fun hcc => h2 (hd m hm e h1 (Or.inl hcc) ▸ hr), fun hch => h2 (hd m hm e h1 (Or.inr hch) ▸ hr)⟩
  refine ⟨?_, ?_, ?_, ?_, List.Nodup.sublist hsub hn, ?_⟩
  · intro e he'
    exact (hkept e.c fun m hm hr => (apart e he' m hm hr).1).trans (ha e ((hmem e).1 he').1)
  · intro c' p' hl
    -- no removed binding has the child `c'`, whose entry is still there
    have hk : ∀ e ∈ s.ents, rem e → e.c ≠ c' := fun e he hr hec => by
      rw [← hec, hgone e he hr] at hl; cases hl
    obtain ⟨e, h1, h2, h3⟩ := hb c' p' ((hkept c' hk).symm.trans hl)
    exact ⟨e, (hmem e).2 ⟨h1, fun hr => hk e h1 hr h3⟩, h2, h3⟩
  · intro e he'
    have h1 := ((hmem e).1 he').1
    refine ⟨fun hx => ?_, (hc e h1).2⟩
    rcases hcl _ hx with hx | ⟨m, hm, hr, hch⟩
    · exact (hc e h1).1 hx
    · exact (apart e he' m hm hr).2 hch
  · exact fun x hx y hy => hd x ((hmem x).1 hx).1 y ((hmem y).1 hy).1
  · intro x hx
    rcases hcl x hx with hx | ⟨m, hm, _, hch⟩
    · exact he x hx
    · exact hch ▸ (hc m hm).2.2

theorem step_inv (s : St) (op : Op) (h : Inv s) (hok : okOp s op) :
    Inv (step s op).1 ∧ (step s op).2 ≠ .panic := by
  cases op with
  | add p c ch =>
    refine ⟨?_, step_add_ne_panic s p c ch⟩
    by_cases hp : p = ""
    · rw [step_add_noparent s p c ch hp]; exact h
    by_cases hce : c = ""
    · rw [step, if_neg hp, if_pos hce]; exact h
    rw [step_add_ok s p c ch hp hce]
    obtain ⟨ha, hb, hc, hd, hn, he⟩ := h
    obtain ⟨hcf, hchf⟩ := hok
    -- a fresh child name and a fresh channel: no live binding has either (`Inv.c`)
    have fresh : ∀ e ∈ s.ents, ¬ (c = e.c ∨ ch = e.ch) := by
      rintro e hemem (heq | heq)
      · exact hcf (heq ▸ (hc e hemem).2.1)
      · exact hchf (heq ▸ (hc e hemem).2.2)
    have hdrop : dropKey s.ents p c = s.ents := by
      unfold dropKey
      apply List.filter_eq_self.2
      intro e hemem
      have : e.c ≠ c := fun heq => fresh e hemem (Or.inl heq.symm)
      simp [this]
    rw [hdrop]
    refine ⟨?_, ?_, ?_, ?_, List.nodup_cons.2 ⟨fun hmem => fresh _ hmem (Or.inl rfl), hn⟩,
      fun x hx => List.mem_cons_of_mem _ (he x hx)⟩
    · intro e hemem
      simp only [lookup_insert]
      rcases List.mem_cons.1 hemem with h1 | h1
      · subst h1; simp
      · rw [if_neg (fun heq => fresh e h1 (Or.inl heq))]; exact ha e h1
    · intro c' p' hl
      simp only [lookup_insert] at hl
      split at hl
      · next hcc => injection hl with hl; exact ⟨_, List.mem_cons_self, hl, hcc⟩
      · obtain ⟨e, h1, h2⟩ := hb c' p' hl
        exact ⟨e, List.mem_cons_of_mem _ h1, h2⟩
    · intro e hemem
      rcases List.mem_cons.1 hemem with h1 | h1
      · subst h1
        exact ⟨fun hcl => hchf (he ch hcl), List.mem_cons_self, List.mem_cons_self⟩
      · have := hc e h1
        exact ⟨this.1, List.mem_cons_of_mem _ this.2.1, List.mem_cons_of_mem _ this.2.2⟩
    · intro x hx y hy hxy
      rcases List.mem_cons.1 hx with h1 | h1 <;> rcases List.mem_cons.1 hy with h2 | h2
      · rw [h1, h2]
      · subst h1; exact absurd hxy (fresh y h2)
      · subst h2; exact absurd (hxy.imp Eq.symm Eq.symm) (fresh x h1)
      · exact hd x h1 y h2 hxy
  | delChild c close =>
    simp only [step]
    by_cases hce : c = ""
    · rw [if_pos hce]; exact ⟨h, nofun⟩
    rw [if_neg hce]
    cases hl : lookup s.parentOf c with
    | none => exact ⟨h, by simp⟩
    | some p =>
      obtain ⟨e0, he0, hp0, hc0⟩ := h.b c p hl
      dsimp only
      cases hf : findEnt s.ents p c with
      | none => exact absurd ⟨hp0, hc0⟩ (findEnt_none _ _ _ hf e0 he0)
      | some e1 =>
        obtain ⟨he1, hp1, hc1⟩ := findEnt_some _ _ _ _ hf
        -- one statement for both values of `close`: the binding goes, `closed` grows by at most its channel
        have hrm : ∀ closed', (∀ x ∈ closed', x ∈ s.closed ∨ x = e1.ch) →
            Inv { s with ents := dropKey s.ents p c, parentOf := erase s.parentOf c, closed := closed' } := by
          intro closed' hcl
          apply inv_remove s h (fun e => e.p = p ∧ e.c = c) _ _ _ List.filter_sublist (mem_dropKey _ _ _)
          · exact fun e _ hr => hr.2 ▸ lookup_erase_self _ _
          · exact fun k hk => lookup_erase_ne _ fun e => hk e1 he1 ⟨hp1, hc1⟩ (hc1.trans e)
          · intro x hx
            exact (hcl x hx).imp id (fun hx => ⟨e1, he1, ⟨hp1, hc1⟩, hx.symm⟩)
        cases close with
        | false => exact ⟨hrm s.closed (fun _ hx => Or.inl hx), by simp⟩
        | true =>
          simp only [if_true, (h.c e1 he1).1, if_false]
          exact ⟨hrm _ (fun x hx => (List.mem_cons.1 hx).symm), by simp⟩
  | delParent p close =>
    simp only [step]
    by_cases hp : p = ""
    · rw [if_pos hp]; exact ⟨h, nofun⟩
    rw [if_neg hp]
    -- likewise: the parent's bindings go, `closed` grows by at most their channels
    have hrm : ∀ closed', (∀ x ∈ closed', x ∈ s.closed ∨ x ∈ (ofParent s.ents p).map (·.ch)) →
        Inv { s with ents := dropParent s.ents p, parentOf := eraseAll s.parentOf ((ofParent s.ents p).map (·.c)),
                     closed := closed' } := by
      intro closed' hcl
      apply inv_remove s h (fun e => e.p = p) _ _ _ List.filter_sublist (mem_dropParent _ _)
      · intro e he hr
        rw [lookup_eraseAll, if_pos (List.mem_map.2 ⟨e, (mem_ofParent _ _ _).2 ⟨he, hr⟩, rfl⟩)]
      · intro k hk
        rw [lookup_eraseAll, if_neg]
        intro hin
        obtain ⟨m, hm, hmc⟩ := List.mem_map.1 hin
        exact hk m ((mem_ofParent _ _ _).1 hm).1 ((mem_ofParent _ _ _).1 hm).2 hmc
      · intro x hx
        refine (hcl x hx).imp id (fun hx => ?_)
        obtain ⟨m, hm, hmch⟩ := List.mem_map.1 hx
        exact ⟨m, ((mem_ofParent _ _ _).1 hm).1, ((mem_ofParent _ _ _).1 hm).2, hmch⟩
    cases close with
    | false => exact ⟨hrm s.closed (fun _ hx => Or.inl hx), by simp⟩
    | true =>
      simp only [if_true, closeAll_of_canClose _ _ (canClose_ofParent s h p)]
      refine ⟨hrm _ (fun x hx => ?_), by simp⟩
      rcases List.mem_append.1 hx with hx | hx
      · exact Or.inr (List.mem_reverse.1 hx)
      · exact Or.inl hx

theorem run_cons (s : St) (op : Op) (ops : List Op) (h : (step s op).2 ≠ .panic) :
    run s (op :: ops) = ((run (step s op).1 ops).1, (step s op).2 :: (run (step s op).1 ops).2) := by
  rw [run]
  cases hst : step s op with
  | mk s1 r =>
    cases r with
    | panic => rw [hst] at h; exact absurd rfl h
    | ok => rfl
    | err w => rfl

theorem run_cons_panic (s : St) (op : Op) (ops : List Op) (h : (step s op).2 = .panic) :
    run s (op :: ops) = ((step s op).1, [.panic]) := by
  rw [run]
  cases hst : step s op with
  | mk s1 r => rw [hst] at h; subst h; rfl

/-- **C08/chanmap**: under the hub's discipline no history ever panics, and the invariant holds
    after it. -/
theorem run_inv (s : St) (ops : List Op) (h : Inv s) (hd : Disc s ops) :
    Inv (run s ops).1 ∧ Res.panic ∉ (run s ops).2 := by
  induction ops generalizing s with
  | nil => exact ⟨h, by simp [run]⟩
  | cons op ops ih =>
    obtain ⟨hok, hrest⟩ := hd
    have hok' : okOp s op := by cases op <;> exact hok
    obtain ⟨hi, hnp⟩ := step_inv s op h hok'
    rw [run_cons s op ops hnp]
    exact ⟨(ih _ hi hrest).1, fun hm => (List.mem_cons.1 hm).elim (fun e => hnp e.symm) (ih _ hi hrest).2⟩

theorem chanmap_never_panics (ops : List Op) (hd : Disc {} ops) : Res.panic ∉ (run {} ops).2 :=
  (run_inv {} ops inv_init hd).2

/-- `ParentByChild[c] = p` exactly when the binding `(p, c)` exists -/
theorem chanmap_consistent (ops : List Op) (hd : Disc {} ops) (c p : String) :
    lookup (run {} ops).1.parentOf c = some p ↔ ∃ e ∈ (run {} ops).1.ents, e.p = p ∧ e.c = c := by
  have hI := (run_inv {} ops inv_init hd).1
  constructor
  · exact hI.b c p
  · rintro ⟨e, he, rfl, rfl⟩; exact hI.a e he

/-- closing a parent (what a deny does) closes exactly the channels of its current children and leaves
    every other binding and channel as it was -/
theorem delparent_closes_exactly (s : St) (p : String) (h : Inv s) (hp : p ≠ "") :
    let s' := (step s (.delParent p true)).1
    (∀ e ∈ s.ents, e.p = p → e.ch ∈ s'.closed) ∧
    (∀ x, x ∈ s'.closed → x ∈ s.closed ∨ ∃ e ∈ s.ents, e.p = p ∧ e.ch = x) ∧
    (∀ e, e ∈ s'.ents ↔ e ∈ s.ents ∧ e.p ≠ p) := by
  simp only [step, hp, if_false, if_true, closeAll_of_canClose _ _ (canClose_ofParent s h p), List.mem_append,
    List.mem_reverse, List.mem_map]
  refine ⟨?_, ?_, ?_⟩
  · intro e hmem hep
    exact Or.inl ⟨e, (mem_ofParent _ _ _).2 ⟨hmem, hep⟩, rfl⟩
  · rintro x (⟨m, hm, rfl⟩ | hx)
    · exact Or.inr ⟨m, ((mem_ofParent _ _ _).1 hm).1, ((mem_ofParent _ _ _).1 hm).2, rfl⟩
    · exact Or.inl hx
  · intro e; exact mem_dropParent _ _ _

/-- bookkeeping footprint: every binding and every `ParentByChild` entry belongs to a child that was
    added; and a child whose `delChild` has run is in neither table (so the tables are empty when
    every added child has been deleted) -/
theorem delchild_removes (s : St) (c : String) (cl : Bool) (h : Inv s) (hc : c ≠ "") :
    let s' := (step s (.delChild c cl)).1
    lookup s'.parentOf c = none ∧ ∀ e ∈ s'.ents, e.c ≠ c := by
  obtain ⟨hI, hnp⟩ := step_inv s (.delChild c cl) h trivial
  have hnone : lookup (step s (.delChild c cl)).1.parentOf c = none := by
    rw [step_delChild_parentOf s c cl hc hnp]; exact lookup_erase_self _ _
  refine ⟨hnone, ?_⟩
  intro e hmem hec
  have := hI.a e hmem
  rw [hec, hnone] at this
  cases this

/-! non-vacuity: the history that panicked before fix fa1e809 (deny, then a new connection under the same booking)
    runs clean -/
example :
    (run {} [.add "b" "c1" 1, .delParent "b" true, .delChild "c1" false, .add "b" "c2" 2]).2
      = [.ok, .ok, .ok, .ok] := by decide +kernel

example : Disc {} [.add "b" "c1" 1, .delParent "b" true, .delChild "c1" false, .add "b" "c2" 2] := by
  exact ⟨by decide, trivial, trivial, by decide, trivial⟩

end ChanMap
