import Relay.Model.Expiry
import Relay.Props.C01
import Relay.Props.C03
import Relay.Extracted.Consts

/-!
# C06 — a connection lasts as long as its token allows and no longer
-/

namespace Expiry

theorem wrap64_id (x : Int) (h1 : -(2 : Int) ^ 63 ≤ x) (h2 : x < 2 ^ 63) : wrap64 x = x := by
  unfold wrap64
  rw [Int.emod_eq_of_lt (by omega) (by omega)]
  omega

/-- **closed within a second after E, never before**: for every admission instant `a ≥ 0` and every expiry
    `expS` not before the admission second and less than 2^63 ns (≈ 292 years) away, the relay cancels the
    connection at an instant in `[E, E + 1 s)`, namely at E plus the sub-second offset of the admission. -/
theorem closes_within_a_second (a expS : Int) (ha : 0 ≤ a) (hge : nowS a ≤ expS)
    (hno : (expS - nowS a) * second < 2 ^ 63) :
    closeAt a expS = expS * second + a % second ∧
    expS * second ≤ closeAt a expS ∧ closeAt a expS < (expS + 1) * second := by
  unfold closeAt timerNs nowS second at *
  have hnn : 0 ≤ (expS - a / 1000000000) * 1000000000 := by omega
  have hw := wrap64_id ((expS - a / 1000000000) * 1000000000) (by omega) hno
  rw [hw, Int.max_eq_left hnn]
  omega

/-- the hypothesis `… < 2^63` is forced by the arithmetic: beyond it the product wraps and the relay
    closes the connection AT ONCE (known finding K3): e.g. a token expiring 9 223 372 037 s (≈ 292.5 years)
    after admission. -/
theorem overflow_closes_immediately :
    let a : Int := 1000000 * second + 500000000
    let expS : Int := 1000000 + 9223372037
    closeAt a expS = a ∧ ¬ (expS * second ≤ closeAt a expS) := by decide

/-- an already-expired token (`expS < now`) is cancelled immediately as well — but such a token is not
    admitted in the first place (`Access.ws_join_iff`: `s.now ≤ pt.exp`) -/
theorem expired_timer_fires_at_once (a expS : Int) (hlt : expS < nowS a) (hno : -(2:Int) ^ 63 ≤ (expS - nowS a) * second) :
    closeAt a expS = a := by
  unfold closeAt timerNs nowS second at *
  have hneg : (expS - a / 1000000000) * 1000000000 < 0 := by omega
  rw [wrap64_id _ hno (by omega)]
  omega

/-- **a code presented before nbf or after exp admits nothing** (from the admission decision, C01) -/
theorem early_or_late_code_admits_none (cfg : Access.Config) (s : Access.St) (path : List Char) (c : Nat) (ua remote : String)
    (e : TtlCode.Entry) (pt : Access.PTok)
    (hf : TtlCode.find s.codes.entries c = some e) (hpt : s.ptoks[e.tok]? = some pt)
    (hbad : s.now < pt.nbf ∨ pt.exp < s.now) :
    ∀ n, (Access.wsAdmit cfg s path (some c) ua remote).2 ≠ .joined n := by
  intro n hn
  obtain ⟨c', e', pt', hc, hf', _, hpt', hA⟩ := (Access.ws_join_iff cfg s path (some c) ua remote).1 ⟨n, hn⟩
  injection hc with hc; subst hc
  rw [hf] at hf'; injection hf' with hf'; subst hf'
  rw [hpt] at hpt'; injection hpt' with hpt'; subst hpt'
  obtain ⟨_, _, _, _, _, _, hnbf, hexp, _⟩ := hA
  rcases hbad with h | h <;> omega

/-- **a cooperative client is never timed out**: if `pingPeriod + δ < pongWait`, every pong of a
    δ-cooperative client arrives before the read deadline then in force, for every ping number — so the
    keep-alive never ends the connection, however long it sits idle. -/
theorem cooperative_survives (t0 pingPeriod pongWait δ : Int) (hp : 0 ≤ pingPeriod) (hd : 0 ≤ δ)
    (hmargin : pingPeriod + δ < pongWait) (k : Nat) :
    pongBy t0 pingPeriod δ (k + 1) < deadlineAfter t0 pingPeriod pongWait k := by
  unfold pongBy deadlineAfter
  have : ((k + 1 : Nat) : Int) * pingPeriod = (k : Int) * pingPeriod + pingPeriod := by
    rw [Int.natCast_succ, Int.add_mul, Int.one_mul]
  omega

/-- **source obligation**: with the constants REGENERATED from the source, the margin is positive: a client
    that answers pings within 5.9 s and keeps reading is never timed out; the write deadline is positive;
    the timer expression that `timerNs` models (seconds, not milliseconds) is compared as text -/
theorem keepalive_constants :
    Extracted.pingPeriod + 5900000000 < Extracted.pongWait ∧ 0 < Extracted.pingPeriod ∧ 0 < Extracted.writeWait ∧
    Extracted.maxMessageSize = 10 * 1024 * 1024 ∧ Extracted.expiryTimerExpr = "time.Duration(ttl) * time.Second" :=
  ⟨by decide, by decide, by decide, rfl, rfl⟩

theorem cooperative_survives_current (t0 δ : Int) (hd : 0 ≤ δ) (hδ : δ ≤ 5900000000) (k : Nat) :
    pongBy t0 Extracted.pingPeriod δ (k + 1) < deadlineAfter t0 Extracted.pingPeriod Extracted.pongWait k :=
  cooperative_survives t0 _ _ δ (by decide) hd (by have := keepalive_constants.1; omega) k

/-- **nothing is relayed to or from it afterwards**: once the reader has exited (it is unregistered), the
    connection is not a hub member, so an inbound frame attributed to it changes nothing (`Hub.unjoined_never_relays`)
    and the fan-out, which walks members only, cannot reach it (`Hub.broadcast_members_sub`). -/
theorem no_relay_after_close (h : Hub.Hub) (n : Nat) (d : List Nat) (mt : Nat) :
    let h' := Hub.step h (.unregister n)
    Hub.findMember h' n = none ∧ Hub.step h' (.inbound n d mt) = h' := by
  intro h'
  have hnone : Hub.findMember h' n = none := by
    simp only [h', Hub.findMember, Hub.step]
    apply List.find?_eq_none.2
    intro c hc
    simp only [List.mem_filter, bne_iff_ne, ne_eq] at hc
    simpa using hc.2
  exact ⟨hnone, Hub.unjoined_never_relays h' n d mt hnone⟩

example : closeAt (1000000 * second + 950000000) 1000003 = 1000003 * second + 950000000 := by decide
example : closeAt (1000000 * second) 1000000 = 1000000 * second := by decide

end Expiry
