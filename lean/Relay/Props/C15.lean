import Relay.Model.Agg
import Relay.Lemmas.Agg

/-!
# C15 — a stream carries exactly its latest rule's feeds; rule edits never crash the host

The theorems are about `Agg.run` (the code of today, `step true`) and hold for EVERY sequence of
register / unregister / add-or-replace rule / delete rule / delete-all / broadcast, over any
streams, feeds and subscribers, unless a hypothesis is written out.

* `agg_never_panics`              no op sequence makes the hub goroutine panic (no `stuck` outcome exists
                                  in the model: the loop's only sends go to the never-blocking inner hub)
* `stream_follows_latest_rule`    copies of a message on feed `f` forwarded to `u` through the
                                  sub-subscription table = (number of times `f` is listed in the latest
                                  rule of `u`'s stream) if `u` is a registered stream subscriber whose name
                                  differs from the sender's, else 0.  A feed listed twice is forwarded twice.
* `stream_forwarded_iff`          the same as an iff (forwarded at all ⟺ registered ∧ latest rule exists ∧ f ∈ it)
* `stream_delivery_follows_rule`  end to end (table + leaked forwarders + direct registration): under the
                                  usage discipline `NoReRegister` what `u` receives is exactly that number
* `reregister_orphans_forwarder`  without the discipline the end-to-end statement is FALSE (witness)
* `plain_delivery_exact`, `plain_subscribers_unaffected`
                                  a plain subscriber gets one copy of each message of its topic (not its
                                  own); erasing every rule op from the history changes nothing for it
* `removed_feed_stops`, `deleted_rule_stops`, `delete_all_stops`, `unregistered_gets_nothing`
                                  corollaries: the state right after the change already forwards nothing
* `old_code_panics_*`             the three historical sequences panic in the model of the code before e26c2fb

Stalled peers (`Agg.Full`, `Agg.fstep`: subscribers that stop draining their `Send` channel, forwarders
blocked in `c.Send <- msg`, tear-down of blocked forwarders), for EVERY history of table ops, stalls and drains:

* `stalls_never_crash_or_block_hub`  the hub loop neither panics nor blocks, and its tables are exactly those of
                                  the table ops alone (a peer that does not read cannot influence them)
* `stalled_iff_history`           the stalled set is what the history says (last stall/drain op was a stall)
* `undelivered_were_owed`         whatever sits in a buffer or with a blocked forwarder (also a stopped one)
                                  belongs to a subscriber that is stalled now and is the message of an earlier
                                  broadcast that owed it to that subscriber at that time ("in flight" only)
* `drained_were_owed`             so a subscriber that drains again gets only such messages, and is clean after
* `draining_subscriber_unaffected`, `draining_stream_subscriber_follows_rule`
                                  a subscriber that drains (never stalled, or drained again) is served as if
                                  nobody had stalled: exactly the latest rule's multiplicity (under `NoReRegister`)
* `broadcast_rows`                a broadcast delivers at once only to draining subscribers; a stalled one gets
                                  nothing until it drains
-/

namespace Agg
open KV

/-- representation invariant of the code of today -/
structure Inv (s : State) : Prop where
  allLive : SM.AllLive s.subs
  regsStream : ∀ u ∈ s.regs, isStream u.topic = true
  plainNot : ∀ u ∈ s.plain, isStream u.topic = false
  orphStream : ∀ p ∈ s.orphans, isStream p.1.topic = true
  /-- the table is a function of the registered set and the rules -/
  table : ∀ u, SM.lookup s.subs u =
    if u ∈ s.regs then (lookup s.rules u.topic).map (fun feeds => feeds.map live) else none

theorem table_next (s : State) (op : Op)
    (htab : ∀ u, SM.lookup s.subs u =
      if u ∈ s.regs then (lookup s.rules u.topic).map (fun feeds => feeds.map live) else none) (v : Sub) :
    SM.lookup (subsNext s op) v =
      if v ∈ setNext true s.regs op then (lookup (rulesNext s.rules op) v.topic).map (fun feeds => feeds.map live)
      else none := by
  cases op with
  | register u =>
    simp only [subsNext, setNext, rulesNext]
    by_cases hs : isStream u.topic = true
    · simp only [if_pos hs]
      by_cases hv : u = v
      · subst hv
        cases hr : lookup s.rules u.topic <;> simp [SM.lookup_insert, mem_setAdd, htab u, hr]
      · cases lookup s.rules u.topic <;> simp [SM.lookup_insert, mem_setAdd, htab v, hv, Ne.symm hv]
    · simp only [if_neg hs]; exact htab v
  | unregister u =>
    simp only [subsNext, setNext, rulesNext]
    by_cases hs : isStream u.topic = true
    · simp only [if_pos hs]
      by_cases hv : u = v
      · simp [SM.lookup_erase, mem_setDel, hv]
      · simp [SM.lookup_erase, mem_setDel, htab v, hv, Ne.symm hv]
    · simp only [if_neg hs]; exact htab v
  | add st feeds =>
    simp only [subsNext, setNext, rulesNext]
    by_cases hd : st = "deleteAll"
    · simp only [if_pos hd]; exact htab v
    · simp only [if_neg hd]
      rw [SM.lookup_setAll, htab v, lookup_insert]
      by_cases ht : st = v.topic
      · by_cases hv : v ∈ s.regs <;> simp [mem_members, hv, ht]
      · simp [mem_members, ht, Ne.symm ht]
  | delete st =>
    simp only [subsNext, setNext, rulesNext]
    by_cases hd : st = "deleteAll"
    · simp only [if_pos hd]; simp
    · simp only [if_neg hd]
      rw [lookup_erase]
      by_cases hh : has s.rules st = true
      · rw [if_pos hh, SM.lookup_eraseAll, htab v]
        by_cases ht : st = v.topic
        · by_cases hv : v ∈ s.regs <;> simp [mem_members, hv, ht]
        · simp [mem_members, ht, Ne.symm ht]
      · -- no rule for the stream: nothing is erased, and `htab` already says `none` for its members
        rw [if_neg hh, htab v]
        by_cases ht : st = v.topic
        · subst ht; simp [show lookup s.rules v.topic = none by simpa [has] using hh]
        · rw [if_neg ht]
  | broadcast t sn => exact htab v

theorem next_inv {s : State} (h : Inv s) (op : Op) : Inv (next s op) where
  allLive := allLive_subsNext s op h.allLive
  regsStream := fun u hu => (setNext_sub true _ op u hu).elim (h.regsStream u) id
  plainNot := fun u hu => (setNext_sub false _ op u hu).elim (h.plainNot u) id
  table := table_next s op h.table
  orphStream := fun p hp => by
    change p ∈ orphansNext s op at hp
    cases op with
    | register u =>
      rw [orphansNext] at hp
      split at hp
      next hc =>
        rcases List.mem_append.1 hp with hp | hp
        · obtain ⟨f, _, rfl⟩ := List.mem_map.1 hp
          exact hc.1
        · exact h.orphStream p hp
      · exact h.orphStream p hp
    | _ => exact h.orphStream p hp

theorem inv_init : Inv {} := ⟨SM.allLive_nil, by simp, by simp, by simp, by simp⟩

/-- every step of today's code from a state satisfying the invariant succeeds and keeps it -/
theorem step_inv (s : State) (op : Op) (h : Inv s) : ∃ s', step true s op = .ok s' ∧ Inv s' :=
  ⟨next s op, step_next s op h.allLive, next_inv h op⟩

theorem runFrom_next (ops : List Op) (s : State) (h : Inv s) :
    runFrom true s ops = .ok (ops.foldl next s) ∧ Inv (ops.foldl next s) :=
  List.foldl_rel (f := fun o op => Outcome.bind o (fun s => step true s op)) (g := next)
    (r := fun o t => o = .ok t ∧ Inv t) ⟨rfl, h⟩
    (fun op _ o t ⟨e, hI⟩ => ⟨by rw [e]; exact step_next t op hI.allLive, next_inv hI op⟩)

/-- the tables after a history -/
def after (ops : List Op) : State := ops.foldl next {}

theorem run_after (ops : List Op) : run ops = .ok (after ops) := (runFrom_next ops {} inv_init).1

theorem inv_after (ops : List Op) : Inv (after ops) := (runFrom_next ops {} inv_init).2

theorem rules_after (ops : List Op) (st : String) : lookup (after ops).rules st = latestRule ops st :=
  (List.foldl_hom (fun s : State => lookup s.rules st) (fun s op => (lookup_rulesNext s.rules op st).symm)).symm

theorem mem_regs_after (ops : List Op) (u : Sub) :
    u ∈ (after ops).regs ↔ isStream u.topic = true ∧ registered ops u = true := by
  rw [← mem_foldl_setNext, after, ← List.foldl_hom State.regs (g₂ := setNext true) (fun _ _ => rfl)]

theorem mem_plain_after (ops : List Op) (u : Sub) :
    u ∈ (after ops).plain ↔ isStream u.topic = false ∧ registered ops u = true := by
  rw [← mem_foldl_setNext, after, ← List.foldl_hom State.plain (g₂ := setNext false) (fun _ _ => rfl)]

/-- **C15 (iii)**: no sequence of rule edits, joins, leaves and broadcasts makes the hub panic. -/
theorem agg_never_panics (ops : List Op) : ∃ s, run ops = .ok s := ⟨_, run_after ops⟩

theorem fwdTable_after (ops : List Op) (u : Sub) (f sender : String) :
    fwdTable (after ops) u f sender = expected ops u f sender := by
  unfold fwdTable liveOf expected
  rw [(inv_after ops).table u, rules_after]
  simp only [mem_regs_after]
  by_cases hn : u.name = sender
  · simp [hn]
  · by_cases hr : isStream u.topic = true ∧ registered ops u = true
    · cases latestRule ops u.topic <;> simp [hn, hr, liveFeeds_fresh]
    · simp [hn, hr]

/-- **C15 (i)**: for every op sequence, stream subscriber `u`, feed `f` and sender: the number of
    copies of a message on `f` that the sub-subscription table forwards to `u` is the multiplicity of
    `f` in the LATEST rule of `u`'s stream when `u` is registered (and is not the sender), and 0
    otherwise (no rule, rule deleted, deleted by delete-all, `u` left, `u` never joined). -/
theorem stream_follows_latest_rule (ops : List Op) (u : Sub) (f sender : String) :
    ∃ s, run ops = .ok s ∧ fwdTable s u f sender = expected ops u f sender :=
  ⟨_, run_after ops, fwdTable_after ops u f sender⟩

/-- `stream_follows_latest_rule` as an equivalence: when anything is forwarded at all -/
theorem stream_forwarded_iff (ops : List Op) (u : Sub) (f sender : String) :
    ∃ s, run ops = .ok s ∧
      (0 < fwdTable s u f sender ↔
        isStream u.topic = true ∧ registered ops u = true ∧ u.name ≠ sender ∧
        ∃ feeds, latestRule ops u.topic = some feeds ∧ f ∈ feeds) := by
  refine ⟨_, run_after ops, ?_⟩
  rw [fwdTable_after, expected]
  by_cases hc : isStream u.topic = true ∧ registered ops u = true ∧ u.name ≠ sender
  · rw [if_pos hc]
    cases latestRule ops u.topic <;> simp [hc, List.count_pos_iff]
  · rw [if_neg hc]
    exact ⟨fun h => absurd h (Nat.lt_irrefl 0), fun ⟨a, b, c, _⟩ => absurd ⟨a, b, c⟩ hc⟩

/-- under the discipline a registering stream subscriber has no table entry to overwrite, so no step leaks a
    forwarder; `fresh` tracks the registered set exactly as `setNext true` does -/
theorem orphans_foldl (ops : List Op) : ∀ s, Inv s → fresh s.regs ops = true →
    (ops.foldl next s).orphans = s.orphans := by
  induction ops with
  | nil => intro s _ _; rfl
  | cons op ops ih =>
    intro s hI hf
    have key : fresh (next s op).regs ops = true ∧ (next s op).orphans = s.orphans := by
      show fresh (setNext true s.regs op) ops = true ∧ orphansNext s op = s.orphans
      cases op with
      | register u =>
        by_cases hs : isStream u.topic = true
        · simp only [fresh, hs, if_true, Bool.and_eq_true, Bool.not_eq_true', decide_eq_false_iff_not] at hf
          have : liveOf s.subs u = [] := by unfold liveOf; rw [hI.table u]; simp [hf.1]
          exact ⟨by simpa [setNext, hs] using hf.2, by simp [orphansNext, this]⟩
        · simp only [fresh, hs] at hf
          exact ⟨by simpa [setNext, hs] using hf, by simp [orphansNext, hs]⟩
      | unregister u =>
        rw [fresh] at hf
        rw [setNext, apply_ite (fresh · ops)]
        exact ⟨hf, rfl⟩
      | _ => exact ⟨hf, rfl⟩
    rw [List.foldl_cons, ih _ (next_inv hI op) key.1, key.2]

/-- **C15 (i, end to end)**: for every op sequence that respects the usage discipline `NoReRegister`
    (a stream subscriber is not registered again while it is registered — the only hypothesis), the
    total number of copies a stream subscriber `u` receives of a message on feed `f`, by whatever path
    (sub-subscription table, leaked forwarders, direct registration), is the multiplicity of `f` in the
    latest rule of `u`'s stream if `u` is registered and not the sender, else 0. -/
theorem stream_delivery_follows_rule (ops : List Op) (hd : NoReRegister ops) (u : Sub)
    (hu : isStream u.topic = true) (f sender : String) :
    ∃ s, run ops = .ok s ∧ received s u f sender = expected ops u f sender := by
  refine ⟨_, run_after ops, ?_⟩
  have hp : u ∉ (after ops).plain := fun e => by rw [(inv_after ops).plainNot u e] at hu; cases hu
  unfold received
  rw [fwdTable_after]
  simp [plainRecv, fwdOrphan, hp, show (after ops).orphans = [] from orphans_foldl ops {} inv_init hd]

/-- the end-to-end statement without the discipline -/
def StreamDeliveryAlwaysFollowsRule : Prop :=
  ∀ (ops : List Op) (u : Sub) (f sender : String), isStream u.topic = true →
    ∃ s, run ops = .ok s ∧ received s u f sender = expected ops u f sender

/-- **It is false**: registering the same subscriber twice while a rule exists overwrites its
    table entry without stopping the old sub-subscriptions; they keep forwarding after the
    subscriber has left and after every rule has been deleted.
    Witness: add stream/s [f1]; register u; register u; unregister u; delete-all — a message on f1
    still reaches u (expected: 0 copies). Reproduced on the real hub (corpus/agg.json). -/
theorem reregister_orphans_forwarder : ¬ StreamDeliveryAlwaysFollowsRule := by
  intro h
  obtain ⟨s, hs, he⟩ := h [.add "stream/s" ["f1"], .register ⟨"u", "stream/s"⟩, .register ⟨"u", "stream/s"⟩,
    .unregister ⟨"u", "stream/s"⟩, .deleteAll] ⟨"u", "stream/s"⟩ "f1" "x" (by decide)
  -- the tables end empty but for the leaked forwarder: `orphans = [(u, "f1")]`
  rw [run_after] at hs
  cases hs
  revert he
  decide

theorem received_after_plain (ops : List Op) (v : Sub) (hv : isStream v.topic = false) (f sender : String) :
    received (after ops) v f sender =
      if registered ops v = true ∧ v.topic = f ∧ v.name ≠ sender then 1 else 0 := by
  have hI := inv_after ops
  have ht : fwdTable (after ops) v f sender = 0 := by
    rw [fwdTable_after]; simp [expected, hv]
  have ho : fwdOrphan (after ops) v f sender = 0 := by
    unfold fwdOrphan
    split
    · rfl
    · exact List.count_eq_zero.2 fun hm => Bool.false_ne_true (hv.symm.trans (hI.orphStream (v, f) hm))
  unfold received
  rw [ht, ho]
  simp only [plainRecv, mem_plain_after, hv, true_and, Nat.add_zero]

/-- **C15 (ii, exact)**: a plain (non-stream) subscriber receives exactly one copy of every message
    broadcast on its own topic by somebody else while it is registered, and nothing else — whatever
    rules were added, replaced or deleted. -/
theorem plain_delivery_exact (ops : List Op) (v : Sub) (hv : isStream v.topic = false)
    (f sender : String) :
    ∃ s, run ops = .ok s ∧
      received s v f sender = if registered ops v = true ∧ v.topic = f ∧ v.name ≠ sender then 1 else 0 :=
  ⟨_, run_after ops, received_after_plain ops v hv f sender⟩

theorem registered_filter (ops : List Op) (v : Sub) :
    registered (ops.filter (fun o => !o.isRuleOp)) v = registered ops v := by
  unfold registered
  rw [List.foldl_filter]
  congr; funext b o; cases o <;> rfl

/-- **C15 (ii)**: delivery to a plain subscriber does not depend on any rule operation: erase every
    add / replace / delete / delete-all from the history and it receives exactly the same. -/
theorem plain_subscribers_unaffected (ops : List Op) (v : Sub) (hv : isStream v.topic = false) :
    ∃ s s', run ops = .ok s ∧ run (ops.filter (fun o => !o.isRuleOp)) = .ok s' ∧
      ∀ f sender, received s v f sender = received s' v f sender :=
  ⟨_, _, run_after _, run_after _, fun f sender => by
    rw [received_after_plain _ v hv, received_after_plain _ v hv, registered_filter]⟩

theorem latestRule_snoc (ops : List Op) (op : Op) (st : String) :
    latestRule (ops ++ [op]) st = ruleStep st (latestRule ops st) op := by
  simp [latestRule, List.foldl_append]

theorem registered_snoc (ops : List Op) (op : Op) (u : Sub) :
    registered (ops ++ [op]) u = regStep u (registered ops u) op := by
  simp [registered, List.foldl_append]

theorem isStream_ne_deleteAll (st : String) (h : isStream st = true) : st ≠ "deleteAll" := by
  intro e
  rw [e, show isStream "deleteAll" = false by decide +kernel] at h
  cases h

theorem expected_eq_zero (ops : List Op) (u : Sub) (f sender : String)
    (h : registered ops u = false ∨ ∀ feeds, latestRule ops u.topic = some feeds → f ∉ feeds) :
    expected ops u f sender = 0 := by
  rw [expected]
  split
  next hc =>
    rcases h with h | h
    · rw [hc.2.1] at h; cases h
    · cases hl : latestRule ops u.topic with
      | none => rfl
      | some feeds => exact List.count_eq_zero.2 (h feeds hl)
  · rfl

/-- a change stops forwarding as soon as it has been applied; the four corollaries below are its instances -/
theorem stops (ops : List Op) (op : Op) (u : Sub) (f sender : String)
    (h : regStep u (registered ops u) op = false ∨
      ∀ feeds, ruleStep u.topic (latestRule ops u.topic) op = some feeds → f ∉ feeds) :
    ∃ s, run (ops ++ [op]) = .ok s ∧ fwdTable s u f sender = 0 :=
  ⟨_, run_after _, by
    rw [fwdTable_after]
    exact expected_eq_zero _ _ _ _ (by rwa [registered_snoc, latestRule_snoc])⟩

/-- a rule update that no longer lists `f` (e.g. audio muted): right after it nothing on `f` is
    forwarded to any subscriber of that stream -/
theorem removed_feed_stops (ops : List Op) (u : Sub) (hu : isStream u.topic = true)
    (feeds : List String) (f sender : String) (hf : f ∉ feeds) :
    ∃ s, run (ops ++ [.add u.topic feeds]) = .ok s ∧ fwdTable s u f sender = 0 :=
  stops ops _ u f sender (.inr fun fs e => by
    simp only [ruleStep, isStream_ne_deleteAll _ hu, if_false, if_true, Option.some.injEq] at e
    exact e ▸ hf)

/-- a deleted rule: right after it nothing is forwarded to the subscribers of that stream -/
theorem deleted_rule_stops (ops : List Op) (u : Sub) (f sender : String) :
    ∃ s, run (ops ++ [.delete u.topic]) = .ok s ∧ fwdTable s u f sender = 0 :=
  stops ops _ u f sender (.inr fun fs e => by
    simp only [ruleStep, if_true, ite_self] at e
    cases e)

/-- delete-all: right after it nothing is forwarded to any stream subscriber -/
theorem delete_all_stops (ops : List Op) (u : Sub) (f sender : String) :
    ∃ s, run (ops ++ [.deleteAll]) = .ok s ∧ fwdTable s u f sender = 0 :=
  stops ops _ u f sender (.inr fun fs e => by
    simp only [ruleStep, if_true] at e
    cases e)

/-- a subscriber that has left gets nothing through the table -/
theorem unregistered_gets_nothing (ops : List Op) (u : Sub) (f sender : String) :
    ∃ s, run (ops ++ [.unregister u]) = .ok s ∧ fwdTable s u f sender = 0 :=
  stops ops _ u f sender (.inl (if_pos rfl))

/-! ### stalled subscribers -/

/-- one op of the full model when the tables do not panic (`fstepS_fnext`) -/
def fnext (f : Full) : FOp → Full
  | .core o => (tableStep f (next f.core o) o).1
  | .stall u k => stallOp f u k
  | .unstall u => unstallOp f u

theorem fstepS_fnext (f : Full) (op : FOp) (h : SM.AllLive f.core.subs) : fstepS f op = .ok (fnext f op) := by
  cases op with
  | core o => simp only [fstepS, fstep, step_next _ _ h, fnext]
  | _ => rfl

theorem fnext_core (f : Full) (op : FOp) : (fnext f op).core = (coreOps [op]).foldl next f.core := by
  cases op with
  | core o => exact tableStep_core _ _ _
  | stall u k => exact stallOp_core _ _ _
  | unstall u => rfl

theorem frunFrom_fnext (ops : List FOp) (f : Full) (h : Inv f.core) :
    frunFrom f ops = .ok (ops.foldl fnext f) ∧ Inv (ops.foldl fnext f).core :=
  List.foldl_rel (f := fun o op => Outcome.bind o (fun f => fstepS f op)) (g := fnext)
    (r := fun o F => o = .ok F ∧ Inv F.core) ⟨rfl, h⟩
    (fun op _ o F ⟨e, hI⟩ => ⟨by rw [e]; exact fstepS_fnext F op hI.allLive,
      by rw [fnext_core]; exact (runFrom_next _ _ hI).2⟩)

/-- the full state after a history -/
def fafter (ops : List FOp) : Full := ops.foldl fnext {}

theorem frun_fafter (ops : List FOp) : frun ops = .ok (fafter ops) := (frunFrom_fnext ops {} inv_init).1

theorem core_foldl (ops : List FOp) : ∀ f, (ops.foldl fnext f).core = (coreOps ops).foldl next f.core := by
  induction ops with
  | nil => intro f; rfl
  | cons op ops ih => intro f; rw [List.foldl_cons, ih, fnext_core]; cases op <;> rfl

theorem inv_fafter (ops : List FOp) : Inv (fafter ops).core := (frunFrom_fnext ops {} inv_init).2

theorem fstepS_fafter (ops : List FOp) (op : FOp) : fstepS (fafter ops) op = .ok (fafter (ops ++ [op])) := by
  rw [fstepS_fnext _ _ (inv_fafter ops).allLive]
  simp [fafter, List.foldl_append]

/-- **C15 (iii) with stalled peers**: for every history of table ops, stalls and drains the hub loop
    neither panics nor blocks (the model has no other outcome than a next state), and its tables are
    exactly those of the table ops alone — a peer that does not read cannot influence rules, registrations or
    sub-subscriptions. -/
theorem stalls_never_crash_or_block_hub (ops : List FOp) :
    ∃ F, frun ops = .ok F ∧ run (coreOps ops) = .ok F.core :=
  ⟨_, frun_fafter ops, by rw [run_after]; exact congrArg _ (core_foldl ops {}).symm⟩

/-- induction on a history from its end: the last op is the one that matters for what holds now -/
theorem snoc_induction {α : Type} {P : List α → Prop} (h0 : P [])
    (hs : ∀ l a, P l → P (l ++ [a])) (l : List α) : P l := by
  rw [← List.reverse_reverse l]
  induction l.reverse with
  | nil => exact h0
  | cons a l ih => rw [List.reverse_cons]; exact hs _ _ ih

theorem fstepS_core_ok {f f' : Full} {o : Op} (h : fstepS f (.core o) = .ok f') :
    ∃ c, step true f.core o = .ok c ∧ f' = (tableStep f c o).1 := by
  simp only [fstepS, fstep] at h
  cases hs : step true f.core o with
  | panic => simp [hs] at h
  | ok c => simp only [hs, Outcome.ok.injEq] at h; exact ⟨c, rfl, h.symm⟩

theorem fstepS_stalled (f f' : Full) (op : FOp) (u : Sub) (h : fstepS f op = .ok f') :
    (roomOf f'.room u).isSome = stallStep u (roomOf f.room u).isSome op := by
  cases op with
  | core o =>
    obtain ⟨c, _, rfl⟩ := fstepS_core_ok h
    exact tableStep_room f c o u
  | stall v k => cases h; exact stallOp_room f v k u
  | unstall v => cases h; exact unstallOp_room f v u

theorem stalled_fafter (u : Sub) (ops : List FOp) : (roomOf (fafter ops).room u).isSome = stalledNow ops u := by
  induction ops using snoc_induction with
  | h0 => rfl
  | hs ops op ih =>
    rw [fstepS_stalled _ _ op u (fstepS_fafter ops op), ih]
    simp [stalledNow, List.foldl_append]

/-- a subscriber is in the stalled set exactly when its last stall/drain op was a stall -/
theorem stalled_iff_history (ops : List FOp) (F : Full) (h : frun ops = .ok F) (u : Sub) :
    (roomOf F.room u).isSome = stalledNow ops u := by
  rw [frun_fafter] at h; cases h
  exact stalled_fafter u ops

/-- where the undelivered messages after one op come from: they were undelivered before (and their
    subscriber did not just drain), or this op is a broadcast that owed them to a stalled subscriber -/
theorem fstepS_items (f f' : Full) (op : FOp) (h : fstepS f op = .ok f') (i : Item) (hi : i ∈ f'.items) :
    (op ≠ .unstall i.to ∧ ∃ j ∈ f.items, j.to = i.to ∧ j.msg = i.msg) ∨
    (∃ t sn, op = .core (.broadcast t sn) ∧ (roomOf f.room i.to).isSome = true ∧ i.msg = ⟨t, f.seq⟩ ∧
      0 < incoming f i.to t sn) := by
  cases op with
  | core o =>
    obtain ⟨c, hs, rfl⟩ := fstepS_core_ok h
    have retagged : ∀ i ∈ retag f.core f.items o, ∃ j ∈ f.items, j.to = i.to ∧ j.msg = i.msg := fun i hi => by
      have := List.mem_map_of_mem (f := fun i => (i.to, i.msg)) hi
      rw [retag_addr, List.mem_map] at this
      obtain ⟨j, hj, e⟩ := this
      exact ⟨j, hj, congrArg Prod.fst e, congrArg Prod.snd e⟩
    cases o with
    | broadcast t sn =>
      cases hs
      simp only [tableStep, Op.bcOf, bcStep, retag, List.mem_append, List.mem_flatMap] at hi
      rcases hi with hi | ⟨p, hp, hi⟩
      · exact Or.inl ⟨by simp, i, hi, rfl, rfl⟩
      · obtain ⟨a, b, c⟩ := bcStalled_mem _ _ _ _ _ _ hi
        refine Or.inr ⟨t, sn, rfl, ?_, b, ?_⟩
        · rw [a]; exact roomOf_mem f.room p.1 p.2 hp
        · rw [a]; exact c
    | register _ | unregister _ | add _ _ | delete _ =>
      simp only [tableStep, Op.bcOf] at hi
      exact Or.inl ⟨by simp, retagged i hi⟩
  | stall v k =>
    cases h
    rw [stallOp_items] at hi
    exact Or.inl ⟨by simp, i, hi, rfl, rfl⟩
  | unstall v =>
    cases h
    simp only [unstallOp, List.mem_filter, decide_eq_true_eq] at hi
    refine Or.inl ⟨?_, i, hi.1, rfl, rfl⟩
    intro e
    cases e
    exact hi.2 rfl

/-- every undelivered message belongs to a subscriber that is stalled -/
def Parked (F : Full) : Prop := ∀ i ∈ F.items, (roomOf F.room i.to).isSome = true

theorem fstepS_parked (f f' : Full) (op : FOp) (h : fstepS f op = .ok f') (hp : Parked f) : Parked f' := by
  intro i hi
  rw [fstepS_stalled f f' op i.to h]
  rcases fstepS_items f f' op h i hi with ⟨hne, j, hj, hto, _⟩ | ⟨t, sn, rfl, hr, _⟩
  · -- an item that was there before: its subscriber was stalled, and stays so as it does not drain now
    rw [← hto, hp j hj]
    cases op with
    | core o => rfl
    | stall v k => exact ite_self true
    | unstall v => exact if_neg fun e => hne (by rw [e, hto])
  · rw [hr]; rfl

/-- message `m` was owed to `u` by a broadcast of the history `pre`, made while `u` was stalled:
    `pre = p ++ broadcast t sn :: post`, `m` is that broadcast's message, and in the state after `p`
    the subscriber `u` is stalled and at least one copy is on its way to `u` -/
def Owed (pre : List FOp) (u : Sub) (m : Msg) : Prop :=
  ∃ p post t sn Fp, pre = p ++ FOp.core (.broadcast t sn) :: post ∧ frun p = .ok Fp ∧ m = ⟨t, Fp.seq⟩ ∧
    (roomOf Fp.room u).isSome = true ∧ 0 < incoming Fp u t sn

theorem Owed.snoc {pre : List FOp} {u : Sub} {m : Msg} (h : Owed pre u m) (op : FOp) :
    Owed (pre ++ [op]) u m := by
  obtain ⟨p, post, t, sn, Fp, e, h1, h2, h3, h4⟩ := h
  exact ⟨p, post ++ [op], t, sn, Fp, by rw [e]; simp, h1, h2, h3, h4⟩

theorem parked_owed_fafter (ops : List FOp) :
    Parked (fafter ops) ∧ ∀ i ∈ (fafter ops).items, Owed ops i.to i.msg := by
  induction ops using snoc_induction with
  | h0 => exact ⟨fun i hi => (by cases hi), fun i hi => (by cases hi)⟩
  | hs ops op ih =>
    have h1 := fstepS_fafter ops op
    refine ⟨fstepS_parked _ _ op h1 ih.1, fun i hi => ?_⟩
    rcases fstepS_items _ _ op h1 i hi with ⟨_, j, hj, hto, hmsg⟩ | ⟨t, sn, rfl, hr, hm, hin⟩
    · have := (ih.2 j hj).snoc op
      rwa [hto, hmsg] at this
    · exact ⟨ops, [], t, sn, _, rfl, frun_fafter ops, hm, hr, hin⟩

/-- **undelivered messages are in-flight messages**: in every reachable state, whatever sits in a
    subscriber's buffer or with a forwarder blocked on it (also a forwarder that was stopped since: the
    subscriber left, its rule was replaced or deleted) (a) belongs to a subscriber that is stalled now and
    (b) is the message of an earlier broadcast that owed it to that subscriber when it was made. Nothing
    else can reach a subscriber when it drains again. -/
theorem undelivered_were_owed (ops : List FOp) (F : Full) (h : frun ops = .ok F) :
    ∀ i ∈ F.items, stalledNow ops i.to = true ∧ Owed ops i.to i.msg := by
  rw [frun_fafter] at h; cases h
  intro i hi
  have := parked_owed_fafter ops
  exact ⟨by rw [← stalled_fafter]; exact this.1 i hi, this.2 i hi⟩

theorem drainRows_mem (items : List Item) (u : Sub) (r : Row) (h : r ∈ drainRows items u) :
    r.to = u ∧ ∃ i ∈ items, i.to = u ∧ i.msg = r.msg := by
  unfold drainRows at h
  obtain ⟨i, hi, rfl⟩ := List.mem_map.1 h
  simp only [List.mem_filter, decide_eq_true_eq] at hi
  exact ⟨rfl, i, hi.1, hi.2, rfl⟩

/-- what a subscriber gets when it drains again: only messages owed to it by earlier broadcasts -/
theorem drained_were_owed (ops : List FOp) (F : Full) (h : frun ops = .ok F) (u : Sub) :
    ∃ F' rows, fstep F (.unstall u) = .ok (F', rows) ∧ (roomOf F'.room u) = none ∧
      (∀ i ∈ F'.items, i.to ≠ u) ∧ ∀ r ∈ rows, r.to = u ∧ Owed ops u r.msg := by
  refine ⟨_, _, rfl, roomOf_filter_self _ _, ?_, ?_⟩
  · intro i hi
    simp only [unstallOp, List.mem_filter, decide_eq_true_eq] at hi
    exact hi.2
  · intro r hr
    obtain ⟨h1, i, hi, hto, hm⟩ := drainRows_mem _ _ _ hr
    have := (undelivered_were_owed ops F h i hi).2
    rw [hto, hm] at this
    exact ⟨h1, this⟩

theorem heldCount_zero (F : Full) (hp : Parked F) (u : Sub) (hu : roomOf F.room u = none)
    (k : Hold) (t : String) : heldCount F.items u k t = 0 := by
  refine List.countP_eq_zero.2 fun i hi hc => ?_
  have := hp i hi
  rw [(of_decide_eq_true hc).1, hu] at this
  cases this

/-- **a subscriber that drains is served as if nobody stalled**: in every reachable state the number of
    copies of a broadcast that reach a subscriber which is not stalled is `received` of the tables alone
    (no forwarder of a draining subscriber is ever blocked), whoever else is stalled, however long. -/
theorem draining_subscriber_unaffected (ops : List FOp) (F : Full) (h : frun ops = .ok F) (u : Sub)
    (hu : stalledNow ops u = false) (t sn : String) :
    incoming F u t sn = received F.core u t sn := by
  rw [frun_fafter] at h; cases h
  have hp := (parked_owed_fafter ops).1
  have hr : roomOf (fafter ops).room u = none := by
    rw [← Option.not_isSome_iff_eq_none, stalled_fafter, hu]
    exact Bool.false_ne_true
  unfold incoming freeTable freeOrphan received
  rw [heldCount_zero _ hp u hr, heldCount_zero _ hp u hr]
  rfl

/-- **C15 (i) next to / after stalls**: under the usage discipline a stream subscriber that drains (it never
    stalled, or drained again) receives of a message on feed `f` exactly the multiplicity of `f` in the
    latest rule of its stream if it is registered and not the sender, else nothing — in every history with
    any stalls and drains of any subscribers in between. -/
theorem draining_stream_subscriber_follows_rule (ops : List FOp) (hd : NoReRegister (coreOps ops))
    (u : Sub) (hu : isStream u.topic = true) (hs : stalledNow ops u = false) (f sender : String) :
    ∃ F, frun ops = .ok F ∧ incoming F u f sender = expected (coreOps ops) u f sender := by
  obtain ⟨F, h, hc⟩ := stalls_never_crash_or_block_hub ops
  obtain ⟨s, h2, he⟩ := stream_delivery_follows_rule (coreOps ops) hd u hu f sender
  rw [hc] at h2; cases h2
  exact ⟨F, h, by rw [draining_subscriber_unaffected ops F h u hs, he]⟩

/-- a broadcast delivers at once only to subscribers that drain, each its `incoming` copies of the new
    message; a stalled subscriber gets nothing until it drains -/
theorem broadcast_rows (F : Full) (t sn : String) :
    ∃ F' rows, fstep F (.core (.broadcast t sn)) = .ok (F', rows) ∧ F'.seq = F.seq + 1 ∧
      ∀ r ∈ rows, roomOf F.room r.to = none ∧ r.msg = ⟨t, F.seq⟩ ∧ r.n = incoming F r.to t sn := by
  refine ⟨_, _, rfl, rfl, ?_⟩
  intro r hr
  simp only [bcRows, retag, List.mem_map, List.mem_filter] at hr
  obtain ⟨u, ⟨_, hu⟩, rfl⟩ := hr
  exact ⟨Option.isNone_iff_eq_none.mp hu, rfl, rfl⟩

/-! non-vacuity: `u` stalls with one free slot; four broadcasts: the first is buffered, the next two stay
    with blocked forwarders, the fourth finds the forwarder of its feed blocked and is dropped; `u` leaves (both
    forwarders stopped while blocked: the hub goes on), `w` joins and is served; when `u` drains it gets the
    three in-flight messages and nothing is left -/
example :
    let u : Sub := ⟨"u", "stream/s"⟩
    let w : Sub := ⟨"w", "stream/s"⟩
    let ops : List FOp := [.core (.add "stream/s" ["v", "a"]), .core (.register u), .stall u 1,
      .core (.broadcast "v" "cam"), .core (.broadcast "a" "cam"), .core (.broadcast "v" "cam"),
      .core (.broadcast "v" "cam"), .core (.unregister u), .core (.register w)]
    (∃ F, frun ops = .ok F ∧
       F.items = [⟨u, .buffered, ⟨"v", 0⟩⟩, ⟨u, .zombie, ⟨"a", 1⟩⟩, ⟨u, .zombie, ⟨"v", 2⟩⟩] ∧
       F.room = [(u, 0)] ∧ incoming F w "v" "cam" = 1 ∧ incoming F u "v" "cam" = 0 ∧
       drainRows F.items u = [⟨u, ⟨"v", 0⟩, 1⟩, ⟨u, ⟨"a", 1⟩, 1⟩, ⟨u, ⟨"v", 2⟩, 1⟩]) ∧
    (∃ F, frun (ops ++ [.unstall u, .core (.register u)]) = .ok F ∧ F.items = [] ∧ F.room = [] ∧
       incoming F u "a" "cam" = 1) ∧
    stalledNow ops u = true ∧ NoReRegister (coreOps ops) := by
  refine ⟨⟨_, rfl, by decide⟩, ⟨_, rfl, by decide⟩, by decide, by decide⟩

/-! ### the code before e26c2fb: the panic outcome is real -/

theorem old_code_panics_delete_unregister :
    runOld [.add "stream/s" ["f1"], .register ⟨"u", "stream/s"⟩, .delete "stream/s",
            .unregister ⟨"u", "stream/s"⟩] = .panic := by decide +kernel

theorem old_code_panics_deleteAll_twice :
    runOld [.add "stream/s" ["f1"], .register ⟨"u", "stream/s"⟩, .deleteAll, .deleteAll] = .panic := by
  decide +kernel

theorem old_code_panics_delete_deleteAll :
    runOld [.add "stream/s" ["f1"], .register ⟨"u", "stream/s"⟩, .delete "stream/s", .deleteAll]
      = .panic := by decide +kernel

/-! ### non-vacuity: a history exercising replace, repeated feed, delete, delete-all, leave -/
example :
    let u : Sub := ⟨"u", "stream/s"⟩
    let p : Sub := ⟨"p", "audio"⟩
    let ops := [Op.add "stream/s" ["video", "audio", "audio"], .register u, .register p]
    NoReRegister ops ∧
    (∃ s, run ops = .ok s ∧ received s u "audio" "cam" = 2 ∧ received s u "video" "cam" = 1 ∧
        received s u "audio" "u" = 0 ∧ received s p "audio" "cam" = 1) ∧
    (∃ s, run (ops ++ [.add "stream/s" ["video"]]) = .ok s ∧          -- audio muted
        received s u "audio" "cam" = 0 ∧ received s u "video" "cam" = 1 ∧ received s p "audio" "cam" = 1) ∧
    (∃ s, run (ops ++ [.delete "stream/s", .unregister u, .deleteAll, .deleteAll]) = .ok s ∧
        received s u "video" "cam" = 0 ∧ received s p "audio" "cam" = 1) := by
  refine ⟨by decide, ⟨_, rfl, by decide⟩, ⟨_, rfl, by decide⟩, ⟨_, rfl, by decide⟩⟩

end Agg
