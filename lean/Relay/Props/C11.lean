import Relay.Props.C09

/-!
# C11 — the access API always answers, and never with success to a bad request

The model of the handlers is a total function into `Resp` with no `panic` outcome: every dereference
the Go handlers perform is guarded in the current code (after fix 100759d the missing-`exp` case is
the `hasRequiredClaims`/`claimsCheck` refusal, the missing `iat`/`nbf` case is a 401 of the session
handler). That the real handlers are total in the same way is what the correspondence run checks
(tokens omitting each claim, ill-typed claims, every parameter shape). What is proved here:
success is never given to a request that is not valid in every respect, and every refusal is one of
the documented error statuses and leaves the state untouched.
-/

namespace Access

inductive Req where
  | session (cred : Cred) (id : String)
  | deny (cred : Cred) (bid exp : Param)
  | allow (cred : Cred) (bid exp : Param)
  | list (cred : Cred) (denied : Bool)
  | status (cred : Cred)

def respond (cfg : Config) (s : St) : Req → St × Resp
  | .session c id => session cfg s c id
  | .deny c b e => denyReq cfg s c b e
  | .allow c b e => allowReq cfg s c b e
  | .list c d => listReq cfg s c d
  | .status c => statusReq cfg s c

def Resp.isSuccess : Resp → Bool
  | .status c => c == 204
  | _ => true

/-- valid in every respect -/
def ReqValid (cfg : Config) (s : St) : Req → Prop
  | .session c id => routable id = true ∧ ∃ b, c = .token b ∧ FullyValid cfg s b id
  | .deny c bid exp => ∃ b k e, c = .token b ∧ AdminValid cfg s b ∧ bindBidExp bid exp = some (k, e) ∧ ¬ e < s.now
  | .allow c bid exp => ∃ b k e, c = .token b ∧ AdminValid cfg s b ∧ bindBidExp bid exp = some (k, e) ∧ ¬ e < s.now
  | .list c _ => ∃ b, c = .token b ∧ AdminValid cfg s b
  | .status c => ∃ b, c = .token b ∧ StatsValid cfg s b

theorem bidsReq_status (act : St → String → Int → St) (cfg : Config) (s : St) (cred : Cred) (bid exp : Param) :
    ∃ c, (bidsReq act cfg s cred bid exp).2 = .status c ∧ (c = 204 ∨ c = 401 ∨ c = 500 ∨ c = 422 ∨ c = 400) := by
  rcases bidsReq_cases act cfg s cred bid exp with ⟨_, _, _, _, heq⟩ | ⟨_, c, heq, hc⟩
  · rw [heq]; exact ⟨204, rfl, .inl rfl⟩
  · rw [heq]; exact ⟨c, rfl, .inr hc⟩

theorem deny_status (cfg : Config) (s : St) (cred : Cred) (bid exp : Param) :
    ∃ c, (denyReq cfg s cred bid exp).2 = .status c ∧ (c = 204 ∨ c = 401 ∨ c = 500 ∨ c = 422 ∨ c = 400) :=
  bidsReq_status denyAct cfg s cred bid exp

theorem allow_status (cfg : Config) (s : St) (cred : Cred) (bid exp : Param) :
    ∃ c, (allowReq cfg s cred bid exp).2 = .status c ∧ (c = 204 ∨ c = 401 ∨ c = 500 ∨ c = 422 ∨ c = 400) :=
  bidsReq_status allowAct cfg s cred bid exp

theorem scopedGet_status (ok : Bearer → Bool) (r : Resp) (cfg : Config) (s : St) (cred : Cred) :
    (scopedGet ok r cfg s cred).2 = r ∨ ∃ c, (scopedGet ok r cfg s cred).2 = .status c ∧ (c = 401 ∨ c = 500) := by
  rcases scopedGet_cases ok r cfg s cred with ⟨_, _, heq⟩ | ⟨_, c, heq, hc⟩
  · rw [heq]; exact .inl rfl
  · rw [heq]; exact .inr ⟨c, rfl, hc⟩

theorem list_status (cfg : Config) (s : St) (cred : Cred) (d : Bool) :
    (∃ ids, (listReq cfg s cred d).2 = .list ids) ∨
    (∃ c, (listReq cfg s cred d).2 = .status c ∧ (c = 401 ∨ c = 500)) :=
  (scopedGet_status isRelayAdmin _ cfg s cred).imp (fun h => ⟨_, h⟩) id

theorem status_status (cfg : Config) (s : St) (cred : Cred) :
    (statusReq cfg s cred).2 = .report ∨
    (∃ c, (statusReq cfg s cred).2 = .status c ∧ (c = 401 ∨ c = 500)) :=
  scopedGet_status hasStatsScope .report cfg s cred

theorem respond_cases (cfg : Config) (s : St) (r : Req) :
    (ReqValid cfg s r ∧ (respond cfg s r).2.isSuccess = true) ∨
    (¬ ReqValid cfg s r ∧ ∃ c, respond cfg s r = (s, .status c) ∧ c ≠ 204) := by
  cases r with
  | session c id =>
    rcases session_cases cfg s c id with ⟨b, hb, hr, hfv, heq⟩ | ⟨hnot, k, heq, hk⟩
    · exact .inl ⟨⟨hr, b, hb, hfv⟩, congrArg (·.2.isSuccess) heq⟩
    · exact .inr ⟨hnot, k, heq, by omega⟩
  | deny c b e =>
    rcases bidsReq_cases denyAct cfg s c b e with ⟨b', k, e', hval, heq⟩ | ⟨hnot, k, heq, hk⟩
    · exact .inl ⟨⟨b', k, e', hval⟩, congrArg (·.2.isSuccess) heq⟩
    · exact .inr ⟨hnot, k, heq, by omega⟩
  | allow c b e =>
    rcases bidsReq_cases allowAct cfg s c b e with ⟨b', k, e', hval, heq⟩ | ⟨hnot, k, heq, hk⟩
    · exact .inl ⟨⟨b', k, e', hval⟩, congrArg (·.2.isSuccess) heq⟩
    · exact .inr ⟨hnot, k, heq, by omega⟩
  | list c d =>
    simp only [respond, ReqValid, adminValid_iff, listReq_eq]
    rcases scopedGet_cases isRelayAdmin (.list (if d then KV.keys s.reg.deny else KV.keys s.reg.allow)) cfg s c
      with ⟨b, hval, heq⟩ | ⟨hnot, k, heq, hk⟩
    · exact .inl ⟨⟨b, hval⟩, congrArg (·.2.isSuccess) heq⟩
    · exact .inr ⟨hnot, k, heq, by omega⟩
  | status c =>
    simp only [respond, ReqValid, statsValid_iff, statusReq_eq]
    rcases scopedGet_cases hasStatsScope .report cfg s c with ⟨b, hval, heq⟩ | ⟨hnot, k, heq, hk⟩
    · exact .inl ⟨⟨b, hval⟩, congrArg (·.2.isSuccess) heq⟩
    · exact .inr ⟨hnot, k, heq, by omega⟩

/-- **never grants a bad request** (and grants every good one): the answer is a success exactly when
    the request is valid in every respect. -/
theorem success_iff_valid (cfg : Config) (s : St) (r : Req) :
    (respond cfg s r).2.isSuccess = true ↔ ReqValid cfg s r := by
  rcases respond_cases cfg s r with ⟨hv, hs⟩ | ⟨hv, c, heq, hc⟩
  · exact ⟨fun _ => hv, fun _ => hs⟩
  · have hs : (Resp.status c).isSuccess = false := by simp [Resp.isSuccess, hc]
    rw [heq, hs]; exact ⟨fun h => (nomatch h), fun h => absurd h hv⟩

/-- **a refusal never changes anything**: whenever the answer is not a success, the whole relay state
    is as before (so the next request is answered from the same state). -/
theorem refusal_keeps_state (cfg : Config) (s : St) (r : Req) (h : (respond cfg s r).2.isSuccess = false) :
    (respond cfg s r).1 = s := by
  rcases respond_cases cfg s r with ⟨_, hs⟩ | ⟨_, c, heq, _⟩
  · rw [hs] at h; cases h
  · rw [heq]

/-- **tokens that omit a claim are answered, never granted**: a correctly signed bearer without exp,
    or (for a session) without nbf or iat, or without audience or scopes, gets an error status on every
    endpoint and changes nothing. -/
theorem missing_claims_refused (cfg : Config) (s : St) (b : Bearer) (r : Req)
    (hmiss : b.exp = none ∨ b.aud = [] ∨ b.scopes = [])
    (hcred : match r with
      | .session c _ => c = .token b | .deny c _ _ => c = .token b | .allow c _ _ => c = .token b
      | .list c _ => c = .token b | .status c => c = .token b) :
    (respond cfg s r).2.isSuccess = false ∧ (respond cfg s r).1 = s := by
  have hnot : ¬ ReqValid cfg s r := by
    -- every notion of validity asks for scopes, an audience and an expiry
    have key {P : Prop} (hP : P → b.scopes ≠ [] ∧ b.aud ≠ [] ∧ ∃ e, b.exp = some e) : ¬ P := fun hp => by
      obtain ⟨hs, ha, e, he⟩ := hP hp
      rcases hmiss with h | h | h
      · rw [h] at he; cases he
      · exact ha h
      · exact hs h
    have hfv (id) : ¬ FullyValid cfg s b id := key <| by
      rintro ⟨_, _, _, ⟨e, he, _⟩, _, _, haud, _, hs, _⟩
      exact ⟨hs, aud_nonempty_of_verify _ _ haud, e, he⟩
    have had : ¬ AdminValid cfg s b := key <| by
      rintro ⟨_, hs, ha, ⟨e, he, _⟩, _⟩
      exact ⟨hs, ha, e, he⟩
    have hst : ¬ StatsValid cfg s b := key <| by
      rintro ⟨_, hs, ha, ⟨e, he, _⟩, _⟩
      exact ⟨hs, ha, e, he⟩
    cases r with
    | session c id => subst hcred; rintro ⟨_, _, ⟨⟩, hv⟩; exact hfv id hv
    | deny c x y | allow c x y => subst hcred; rintro ⟨_, _, _, ⟨⟩, hv, _⟩; exact had hv
    | list c d => subst hcred; rintro ⟨_, ⟨⟩, hv⟩; exact had hv
    | status c => subst hcred; rintro ⟨_, ⟨⟩, hv⟩; exact hst hv
  have hf : (respond cfg s r).2.isSuccess = false := Bool.eq_false_iff.2 (mt (success_iff_valid cfg s r).1 hnot)
  exact ⟨hf, refusal_keeps_state cfg s r hf⟩

/-- binding of `exp` (`strconv.ParseInt(s, 10, 64)`) at the int64 boundaries and on malformed texts -/
example : parseInt64 "9223372036854775807" = some 9223372036854775807 ∧ parseInt64 "9223372036854775808" = none ∧
    parseInt64 "-9223372036854775808" = some (-9223372036854775808) ∧ parseInt64 "1e3" = none ∧ parseInt64 "" = none ∧
    parseInt64 "+7" = some 7 ∧ parseInt64 "-" = none ∧ parseInt64 "1_0" = none := by decide +kernel

end Access
