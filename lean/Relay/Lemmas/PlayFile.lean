import Relay.Model.PlayFile
import Relay.Lemmas.DurationRT

/-! Lemmas for C20.  Each scanner of `Model/PlayFile.lean` gets a `_shape` lemma (a line composed of
    class runs and literals is matched, with these groups) and a `_some` lemma (a match decomposes
    the line that way; for `scanComment` that direction is `scanComment_iff` in `Props/C20.lean`);
    then the pieces of `parseDuration`, and decimal text read back by `parseDuration` / `atoi`. -/

namespace PlayFile

def All (p : Char → Bool) (s : Str) : Prop := ∀ c ∈ s, p c = true

/-- after a run `All p a`, `NoHead p b` is where the greedy `p*` stops: `tw_split`, `dw_split` -/
def NoHead (p : Char → Bool) (s : Str) : Prop := ∀ c r, s = c :: r → p c = false

theorem all_nil {p : Char → Bool} : All p [] := by intro c h; cases h

theorem all_append {p : Char → Bool} {a b : Str} (ha : All p a) (hb : All p b) : All p (a ++ b) :=
  List.forall_mem_append.2 ⟨ha, hb⟩

theorem all_cons {p : Char → Bool} {c : Char} {r : Str} (hc : p c = true) (hr : All p r) : All p (c :: r) :=
  List.forall_mem_cons.2 ⟨hc, hr⟩

theorem all_mono {p q : Char → Bool} {s : Str} (hpq : ∀ c, p c = true → q c = true) (h : All p s) : All q s :=
  fun c hc => hpq c (h c hc)

theorem all_takeWhile (p : Char → Bool) (s : Str) : All p (s.takeWhile p) :=
  List.all_eq_true.mp List.all_takeWhile

theorem nohead_dropWhile (p : Char → Bool) (s : Str) : NoHead p (s.dropWhile p) := by
  intro c r e
  have := List.head?_dropWhile_not p s
  rwa [e] at this

theorem nohead_nil {p : Char → Bool} : NoHead p [] := by intro c r h; cases h

theorem nohead_cons {p : Char → Bool} {c : Char} (r : Str) (h : p c = false) : NoHead p (c :: r) := by
  intro c' r' e; cases e; exact h

theorem tw_nohead {p : Char → Bool} {s : Str} (h : NoHead p s) : s.takeWhile p = [] := by
  cases s with
  | nil => rfl
  | cons c r => exact List.takeWhile_cons_of_neg (by simp [h c r rfl])

theorem dw_nohead {p : Char → Bool} {s : Str} (h : NoHead p s) : s.dropWhile p = s := by
  cases s with
  | nil => rfl
  | cons c r => exact List.dropWhile_cons_of_neg (by simp [h c r rfl])

theorem tw_split {p : Char → Bool} {a b : Str} (ha : All p a) (hb : NoHead p b) :
    (a ++ b).takeWhile p = a := by
  rw [List.takeWhile_append_of_pos ha, tw_nohead hb, List.append_nil]

theorem dw_split {p : Char → Bool} {a b : Str} (ha : All p a) (hb : NoHead p b) :
    (a ++ b).dropWhile p = b := by
  rw [List.dropWhile_append_of_pos ha, dw_nohead hb]

theorem nohead_append {p q : Char → Bool} {a b : Str} (hdis : ∀ c, q c = true → p c = false)
    (ha : All q a) (hb : NoHead p b) : NoHead p (a ++ b) := by
  cases a with
  | nil => exact hb
  | cons c r => exact nohead_cons _ (hdis c (ha c List.mem_cons_self))

theorem isWs_forall {P : Char → Prop} (h : P '\t' ∧ P '\n' ∧ P '\x0c' ∧ P '\r' ∧ P ' ') :
    ∀ c, isWs c = true → P c := by
  intro c hc
  have : c = '\t' ∨ c = '\n' ∨ c = '\x0c' ∨ c = '\r' ∨ c = ' ' := by simpa [isWs, or_assoc] using hc
  obtain ⟨h1, h2, h3, h4, h5⟩ := h
  rcases this with rfl | rfl | rfl | rfl | rfl <;> assumption

theorem disj_symm {p q : Char → Bool} (h : ∀ c, q c = true → p c = false) :
    ∀ c, p c = true → q c = false := fun c hp =>
  Bool.eq_false_iff.2 fun hq => by rw [h c hq] at hp; cases hp

theorem ws_not_delayCh : ∀ c, isWs c = true → isDelayCh c = false :=
  isWs_forall (by decide)
theorem ws_not_digit : ∀ c, isWs c = true → isDigit c = false :=
  isWs_forall (by decide)
theorem ws_not_timeoutCh : ∀ c, isWs c = true → isTimeoutCh c = false :=
  isWs_forall (by decide)
theorem ws_not_verbCh : ∀ c, isWs c = true → isVerbCh c = false :=
  isWs_forall (by decide)
theorem ws_not_pm : ∀ c, isWs c = true → isPM c = false :=
  isWs_forall (by decide)
theorem ws_not_hash : ∀ c, isWs c = true → isHash c = false :=
  isWs_forall (by decide)

theorem pm_not_hash : ∀ c, isPM c = true → isHash c = false := by
  intro c h
  have : c = '+' ∨ c = '-' := by simpa [isPM] using h
  rcases this with rfl | rfl <;> decide

theorem digit_notNL : ∀ c, isDigit c = true → notNL c = true := by
  intro c h
  cases hn : notNL c with
  | true => rfl
  | false =>
    have : c = '\n' := by simpa [notNL] using hn
    subst this; exact absurd h (by decide)

theorem ws_of_space : All isWs [' '] := all_cons (by decide) all_nil

theorem dotStar_of_all {s : Str} (h : All notNL s) : dotStar s = s := by
  unfold dotStar
  have := tw_split (b := []) h nohead_nil
  simpa using this

theorem expect_eq_some_iff {p : Char → Bool} {c : Char} {s r : Str} :
    expect p c s = some r ↔ s.dropWhile p = c :: r := by
  unfold expect
  cases s.dropWhile p with
  | nil => simp
  | cons x r' => simp [eq_comm]

theorem expect_shape {p : Char → Bool} {c : Char} (ws r : Str) (hws : All p ws) (hc : p c = false) :
    expect p c (ws ++ c :: r) = some r :=
  expect_eq_some_iff.2 (dw_split hws (nohead_cons r hc))

theorem expect_other {p : Char → Bool} {c x : Char} (ws r : Str) (hws : All p ws) (hx : p x = false)
    (hne : x ≠ c) : expect p c (ws ++ x :: r) = none := by
  unfold expect
  rw [dw_split hws (nohead_cons r hx)]
  simp [hne]

theorem expect_some {p : Char → Bool} {c : Char} {s r : Str} (h : expect p c s = some r) :
    s = s.takeWhile p ++ c :: r := by
  rw [← expect_eq_some_iff.1 h, List.takeWhile_append_dropWhile]

/-- The field `\s*(p*)\s*c` that three of the expressions share; when the run of `p` is empty the
    blanks on both sides merge (case `nil`). -/
theorem scan_field {p : Char → Bool} {c : Char} (hdis : ∀ x, isWs x = true → p x = false)
    (hc : isWs c = false) (hpc : p c = false) (ws2 arg ws3 rest : Str) (h2 : All isWs ws2) (ha : All p arg)
    (h3 : All isWs ws3) :
    ((ws2 ++ (arg ++ (ws3 ++ c :: rest))).dropWhile isWs).takeWhile p = arg ∧
    expect isWs c (((ws2 ++ (arg ++ (ws3 ++ c :: rest))).dropWhile isWs).dropWhile p) = some rest := by
  cases arg with
  | nil =>
    rw [List.nil_append, ← List.append_assoc, dw_split (all_append h2 h3) (nohead_cons rest hc),
      dw_nohead (nohead_cons rest hpc), tw_nohead (nohead_cons rest hpc)]
    exact ⟨rfl, expect_shape [] rest all_nil hc⟩
  | cons a as =>
    have hna : NoHead isWs ((a :: as) ++ (ws3 ++ c :: rest)) :=
      nohead_cons _ (disj_symm hdis a (ha a List.mem_cons_self))
    have hnd : NoHead p (ws3 ++ c :: rest) := nohead_append hdis h3 (nohead_cons rest hpc)
    rw [dw_split h2 hna, tw_split ha hnd, dw_split ha hnd]
    exact ⟨rfl, expect_shape ws3 rest h3 hc⟩

theorem scan_field_some {p : Char → Bool} {c : Char} {r r3 : Str}
    (h : expect isWs c ((r.dropWhile isWs).dropWhile p) = some r3) :
    r = r.takeWhile isWs ++ ((r.dropWhile isWs).takeWhile p ++
      (((r.dropWhile isWs).dropWhile p).takeWhile isWs ++ c :: r3)) := by
  rw [← expect_some h, List.takeWhile_append_dropWhile, List.takeWhile_append_dropWhile]

theorem splitLast_eq_none_iff {c : Char} {s : Str} : splitLast c s = none ↔ c ∉ s := by
  induction s with
  | nil => simp [splitLast]
  | cons x xs ih =>
    rw [splitLast, List.mem_cons, not_or, ← ih]
    cases splitLast c xs with
    | some ab => simp
    | none => by_cases hx : x = c <;> simp [hx, Ne.symm]

theorem splitLast_shape {c : Char} (a b : Str) (h : c ∉ b) :
    splitLast c (a ++ c :: b) = some (a, b) := by
  induction a with
  | nil => simp [splitLast, splitLast_eq_none_iff.2 h]
  | cons x xs ih => simp [splitLast, ih]

theorem splitLast_some {c : Char} {s a b : Str} (h : splitLast c s = some (a, b)) :
    s = a ++ c :: b ∧ c ∉ b := by
  induction s generalizing a b with
  | nil => cases h
  | cons x xs ih =>
    unfold splitLast at h
    split at h
    · rename_i a' b' hs
      cases h
      obtain ⟨h1, h2⟩ := ih hs
      exact ⟨by rw [h1]; rfl, h2⟩
    · rename_i hs
      by_cases hx : x = c
      · rw [if_pos hx] at h
        cases h
        exact ⟨by rw [hx]; rfl, splitLast_eq_none_iff.1 hs⟩
      · rw [if_neg hx] at h
        cases h

theorem scanComment_shape (ws hs pm ws2 body : Str) (h1 : All isWs ws) (h2 : All isHash hs)
    (h3 : All isPM pm) (h4 : All isWs ws2) (n2 : NoHead isHash (pm ++ (ws2 ++ body)))
    (n3 : NoHead isPM (ws2 ++ body)) (n4 : NoHead isWs body) :
    scanComment (ws ++ '#' :: (hs ++ (pm ++ (ws2 ++ body)))) = some (pm, dotStar body) := by
  unfold scanComment
  rw [expect_shape ws _ h1 (by decide)]
  simp only [Option.map_some]
  rw [dw_split h2 n2, tw_split h3 n3, dw_split h3 n3, dw_split h4 n4]

theorem scanDelay_shape (ws1 ws2 arg ws3 rest : Str) (h1 : All isWs ws1) (h2 : All isWs ws2)
    (ha : All isDelayCh arg) (h3 : All isWs ws3) :
    scanDelay (ws1 ++ '[' :: (ws2 ++ (arg ++ (ws3 ++ ']' :: rest)))) =
      some (arg, dotStar (rest.dropWhile isWs)) := by
  obtain ⟨e1, e2⟩ := scan_field ws_not_delayCh (c := ']') (by decide) (by decide) ws2 arg ws3 rest h2 ha h3
  unfold scanDelay
  rw [expect_shape ws1 _ h1 (by decide)]
  simp only [Option.bind_some, e1, e2, Option.map_some]

theorem scanDelay_some {l : Str} {x : Str × Str} (h : scanDelay l = some x) :
    ∃ ws1 ws2 ws3 rest, All isWs ws1 ∧ All isWs ws2 ∧ All isDelayCh x.1 ∧ All isWs ws3 ∧
      l = ws1 ++ '[' :: (ws2 ++ (x.1 ++ (ws3 ++ ']' :: rest))) := by
  simp only [scanDelay, Option.bind_eq_some_iff, Option.map_eq_some_iff] at h
  obtain ⟨r, he, r3, he2, rfl⟩ := h
  exact ⟨l.takeWhile isWs, r.takeWhile isWs, ((r.dropWhile isWs).dropWhile isDelayCh).takeWhile isWs, r3,
    all_takeWhile _ _, all_takeWhile _ _, all_takeWhile _ _, all_takeWhile _ _,
    (expect_some he).trans (congrArg (l.takeWhile isWs ++ '[' :: ·) (scan_field_some he2))⟩

theorem scanCond_shape (ws1 inner rest : Str) (h1 : All isWs ws1) (hi : All notNL inner)
    (hgt : '>' ∉ dotStar rest) :
    scanCond (ws1 ++ '<' :: (inner ++ '>' :: rest)) = some (inner, dotStar (rest.dropWhile isWs)) := by
  unfold scanCond
  rw [expect_shape ws1 _ h1 (by decide)]
  simp only [Option.bind_some]
  rw [List.takeWhile_append_of_pos hi, List.takeWhile_cons_of_pos (by decide), List.dropWhile_append_of_pos hi,
    List.dropWhile_cons_of_pos (by decide), splitLast_shape inner (rest.takeWhile notNL) hgt]
  simp only [Option.map_some, dotStar, List.takeWhile_append_dropWhile]

theorem scanCond_some {l : Str} {x : Str × Str} (h : scanCond l = some x) :
    ∃ ws1 rest, All isWs ws1 ∧ All notNL x.1 ∧ '>' ∉ dotStar rest ∧
      l = ws1 ++ '<' :: (x.1 ++ '>' :: rest) ∧ x.2 = dotStar (rest.dropWhile isWs) := by
  simp only [scanCond, Option.bind_eq_some_iff, Option.map_eq_some_iff] at h
  obtain ⟨r, he, ⟨inner, after⟩, hs, rfl⟩ := h
  obtain ⟨hs1, hs2⟩ := splitLast_some hs
  have hall := all_takeWhile notNL r
  rw [hs1] at hall
  have hd : dotStar (after ++ r.dropWhile notNL) = after :=
    tw_split (fun c hc => hall c (List.mem_append_right _ (List.mem_cons_of_mem _ hc))) (nohead_dropWhile _ _)
  have hr := (List.takeWhile_append_dropWhile (p := notNL) (l := r)).symm
  rw [hs1, List.append_assoc, List.cons_append] at hr
  exact ⟨l.takeWhile isWs, after ++ r.dropWhile notNL, all_takeWhile _ _,
    fun c hc => hall c (List.mem_append_left _ hc), by rwa [hd], (expect_some he).trans (by rw [← hr]), rfl⟩

theorem scanCondArgs_shape (ws1 pat ws2 ws3 cnt ws4 ws5 tmo junk : Str) (h1 : All isWs ws1)
    (hp : All notQuote pat) (h2 : All isWs ws2) (h3 : All isWs ws3) (hc : All isDigit cnt)
    (h4 : All isWs ws4) (h5 : All isWs ws5) (ht : All isTimeoutCh tmo)
    (n5 : NoHead isWs (tmo ++ junk)) (nj : NoHead isTimeoutCh junk) :
    scanCondArgs (ws1 ++ '\'' :: (pat ++ '\'' :: (ws2 ++ ',' :: (ws3 ++ (cnt ++ (ws4 ++ ',' :: (ws5 ++ (tmo ++ junk))))))))
      = some (pat, cnt, tmo) := by
  obtain ⟨e1, e2⟩ := scan_field ws_not_digit (c := ',') (by decide) (by decide) ws3 cnt ws4
    (ws5 ++ (tmo ++ junk)) h3 hc h4
  simp only [scanCondArgs, expect_shape (c := '\'') ws1 _ h1 (by decide), expect_shape (c := '\'') pat _ hp (by decide),
    expect_shape (c := ',') ws2 _ h2 (by decide), Option.bind_some,
    tw_split hp (nohead_cons _ (by decide : notQuote '\'' = false)), e1, e2, Option.map_some, dw_split h5 n5,
    tw_split ht nj]

theorem scanCondArgs_some {a : Str} {x : Str × Str × Str} (h : scanCondArgs a = some x) :
    ∃ ws1 ws2 ws3 ws4 ws5 junk, All isWs ws1 ∧ All notQuote x.1 ∧ All isWs ws2 ∧ All isWs ws3 ∧
      All isDigit x.2.1 ∧ All isWs ws4 ∧ All isWs ws5 ∧ All isTimeoutCh x.2.2 ∧
      NoHead isWs (x.2.2 ++ junk) ∧ NoHead isTimeoutCh junk ∧
      a = ws1 ++ '\'' :: (x.1 ++ '\'' :: (ws2 ++ ',' :: (ws3 ++ (x.2.1 ++ (ws4 ++ ',' :: (ws5 ++ (x.2.2 ++ junk))))))) := by
  simp only [scanCondArgs, Option.bind_eq_some_iff, Option.map_eq_some_iff] at h
  obtain ⟨r, he1, r1, he2, r2, he3, r4, he4, rfl⟩ := h
  refine ⟨a.takeWhile isWs, r1.takeWhile isWs, r2.takeWhile isWs,
    ((r2.dropWhile isWs).dropWhile isDigit).takeWhile isWs, r4.takeWhile isWs,
    (r4.dropWhile isWs).dropWhile isTimeoutCh,
    all_takeWhile _ _, all_takeWhile _ _, all_takeWhile _ _, all_takeWhile _ _, all_takeWhile _ _,
    all_takeWhile _ _, all_takeWhile _ _, all_takeWhile _ _, ?_, nohead_dropWhile _ _, ?_⟩
  · rw [List.takeWhile_append_dropWhile]
    exact nohead_dropWhile _ _
  · rw [List.takeWhile_append_dropWhile, List.takeWhile_append_dropWhile, ← scan_field_some he4, ← expect_some he3,
      ← expect_some he2]
    exact expect_some he1

theorem scanFilter_shape (ws1 ws2 verb ws3 rest : Str) (h1 : All isWs ws1) (h2 : All isWs ws2)
    (hv : All isVerbCh verb) (hne : verb ≠ []) (h3 : All isWs ws3) :
    scanFilter (ws1 ++ '|' :: (ws2 ++ (verb ++ (ws3 ++ '>' :: rest)))) =
      some (verb, dotStar (rest.dropWhile isWs)) := by
  obtain ⟨e1, e2⟩ := scan_field ws_not_verbCh (c := '>') (by decide) (by decide) ws2 verb ws3 rest h2 hv h3
  unfold scanFilter
  rw [expect_shape ws1 _ h1 (by decide)]
  simp only [Option.bind_some, e1, e2, hne, if_false, Option.map_some]

theorem scanFilter_some {l : Str} {x : Str × Str} (h : scanFilter l = some x) :
    ∃ ws1 ws2 ws3 rest, All isWs ws1 ∧ All isWs ws2 ∧ All isVerbCh x.1 ∧ x.1 ≠ [] ∧ All isWs ws3 ∧
      l = ws1 ++ '|' :: (ws2 ++ (x.1 ++ (ws3 ++ '>' :: rest))) ∧ x.2 = dotStar (rest.dropWhile isWs) := by
  simp only [scanFilter, Option.bind_eq_some_iff, Option.map_eq_some_iff, Option.ite_none_left_eq_some] at h
  obtain ⟨r, he, hne, r2, he2, rfl⟩ := h
  exact ⟨l.takeWhile isWs, r.takeWhile isWs, ((r.dropWhile isWs).dropWhile isVerbCh).takeWhile isWs, r2,
    all_takeWhile _ _, all_takeWhile _ _, all_takeWhile _ _, hne, all_takeWhile _ _,
    (expect_some he).trans (congrArg (l.takeWhile isWs ++ '|' :: ·) (scan_field_some he2)), rfl⟩

/-! ### durations: the pieces consume what `dropWhile` says, the loop always makes progress -/

theorem leadingInt_rest {x v : Nat} {s s1 : Str} (h : leadingInt x s = some (v, s1)) :
    s1 = s.dropWhile isDigit := by
  induction s generalizing x with
  | nil => cases h; rfl
  | cons c r ih =>
    rw [leadingInt] at h
    by_cases hc : isDigit c = true
    · rw [if_pos hc] at h
      rw [List.dropWhile_cons_of_pos hc]
      -- a `some` passes both overflow guards
      exact ih (Option.ite_none_left_eq_some.mp (Option.ite_none_left_eq_some.mp h).2).2
    · rw [if_neg hc] at h
      rw [List.dropWhile_cons_of_neg hc]
      cases h
      rfl

theorem leadingFraction_rest (x : Nat) (sc : Dbl) (o : Bool) (s : Str) :
    (leadingFraction x sc o s).2.2 = s.dropWhile isDigit := by
  induction s generalizing x sc o with
  | nil => rfl
  | cons c r ih =>
    unfold leadingFraction
    by_cases hc : isDigit c = true
    · -- all four branches recurse on `r`
      simp only [if_pos hc, List.dropWhile_cons_of_pos hc, apply_ite (fun t : Nat × Dbl × Str => t.2.2), ih,
        ite_self]
    · rw [if_neg hc, List.dropWhile_cons_of_neg hc]

theorem fracPart_rest_sublist (s : Str) : (fracPart (s.dropWhile isDigit)).2.2.2.Sublist s := by
  refine List.Sublist.trans ?_ (List.dropWhile_sublist isDigit)
  generalize s.dropWhile isDigit = s1
  unfold fracPart
  split
  · simp only [leadingFraction_rest]
    exact (List.dropWhile_sublist _).trans (List.sublist_cons_self _ _)
  · exact List.Sublist.refl _

theorem durTerm_rest {s rest : Str} {v : Nat} (h : durTerm s = some (v, rest)) :
    (fracPart (s.dropWhile isDigit)).2.2.2.takeWhile isUnitCh ≠ [] ∧
      rest = (fracPart (s.dropWhile isDigit)).2.2.2.dropWhile isUnitCh := by
  cases s with
  | nil => cases h
  | cons c r =>
    rw [durTerm] at h
    -- every guard of `durTerm` has the form `if c then none else …`, so a `some` passes each of them;
    -- splitting the whole body at every guard is slow to check
    obtain ⟨-, h⟩ := Option.ite_none_left_eq_some.mp h
    cases hli : leadingInt 0 (c :: r) with
    | none => rw [hli] at h; cases h
    | some vs =>
      obtain ⟨v0, s1⟩ := vs
      rw [hli] at h
      rw [← leadingInt_rest hli]
      simp only at h
      obtain ⟨-, h⟩ := Option.ite_none_left_eq_some.mp h
      obtain ⟨hu, h⟩ := Option.ite_none_left_eq_some.mp h
      refine ⟨hu, ?_⟩
      generalize unitOf _ = o at h
      cases o with
      | none => cases h
      | some unit =>
        simp only at h
        obtain ⟨-, h⟩ := Option.ite_none_left_eq_some.mp h
        by_cases hf : (fracPart s1).1 > 0
        · rw [if_pos hf] at h
          exact (Prod.mk.inj (Option.some.inj (Option.ite_none_left_eq_some.mp h).2)).2.symm
        · rw [if_neg hf] at h
          exact (Prod.mk.inj (Option.some.inj h)).2.symm

theorem durTerm_shrinks {s rest : Str} {v : Nat} (h : durTerm s = some (v, rest)) :
    rest.length < s.length := by
  obtain ⟨hu, rfl⟩ := durTerm_rest h
  have h1 := (fracPart_rest_sublist s).length_le
  have e := congrArg List.length
    (List.takeWhile_append_dropWhile (p := isUnitCh) (l := (fracPart (s.dropWhile isDigit)).2.2.2))
  have := List.length_pos_iff.mpr hu
  rw [List.length_append] at e
  omega

theorem splitSign_numCh {c : Char} (r : Str) (h : isNumCh c = true) : splitSign (c :: r) = (false, c :: r) := by
  unfold splitSign
  split
  · rename_i heq; cases heq; exact absurd h (by decide)
  · rename_i heq; cases heq; exact absurd h (by decide)
  · rfl

theorem splitSign_digit {c : Char} (r : Str) (h : isDigit c = true) : splitSign (c :: r) = (false, c :: r) :=
  splitSign_numCh r (by simp [isNumCh, h])

theorem durTerm_numOnly {s : Str} (h : All isNumCh s) : durTerm s = none := by
  cases hd : durTerm s with
  | none => rfl
  | some vr =>
    -- nothing is left that could be a unit name
    have hu : NoHead isUnitCh (fracPart (s.dropWhile isDigit)).2.2.2 := fun c r e => by
      simp [isUnitCh, h c ((fracPart_rest_sublist s).mem (e ▸ List.mem_cons_self))]
    exact absurd (tw_nohead hu) (durTerm_rest (v := vr.1) (rest := vr.2) hd).1

theorem parseDuration_numOnly {s : Str} (h : All isNumCh s) (h0 : s ≠ ['0']) : parseDuration s = none := by
  cases s with
  | nil => rfl
  | cons c r =>
    have hs := splitSign_numCh r (h c List.mem_cons_self)
    simp only [parseDuration, hs, h0, if_false, reduceCtorEq, List.length_cons, durLoop, durTerm_numOnly h]

/-! ### decimal rendering parses back -/

theorem natDigits_all (n : Nat) : All isDigit (natDigits n) := fun c hc => by
  -- core's `Char.isDigit` is the same range test on the `UInt32` value
  have h := Nat.isDigit_of_mem_toDigits (by decide) (by decide) hc
  simp only [Char.isDigit, ge_iff_le, Bool.and_eq_true, decide_eq_true_eq, UInt32.le_iff_toNat_le] at h
  simp only [isDigit, Bool.and_eq_true, decide_eq_true_eq]
  exact h

theorem natDigits_ne_nil (n : Nat) : natDigits n ≠ [] := Nat.toDigits_ne_nil

theorem natDigits_val (n : Nat) : Nat.ofDigitChars 10 (natDigits n) 0 = n :=
  Nat.ofDigitChars_toDigits (by decide) (by decide)

theorem leadingInt_digits (ds rest : Str) (x : Nat) (hd : All isDigit ds) (hr : NoHead isDigit rest)
    (hb : Nat.ofDigitChars 10 ds x ≤ two63) :
    leadingInt x (ds ++ rest) = some (Nat.ofDigitChars 10 ds x, rest) := by
  induction ds generalizing x with
  | nil =>
    cases rest with
    | nil => rfl
    | cons c r => exact if_neg (by simp [hr c r rfl])
  | cons c r ih =>
    have e : x * 10 + digitVal c = 10 * x + (c.toNat - '0'.toNat) := by rw [Nat.mul_comm]; rfl
    rw [Nat.ofDigitChars_cons, ← e] at hb ⊢
    -- both overflow guards are below the final value, which is below `two63`
    have hy : x * 10 + digitVal c ≤ two63 := Nat.le_trans (Dur.le_ofDigitChars r _) hb
    have hx : x ≤ two63 / 10 :=
      (Nat.le_div_iff_mul_le (by decide)).mpr (Nat.le_trans (Nat.le_add_right _ _) hy)
    rw [List.cons_append, leadingInt, if_pos (hd c List.mem_cons_self), if_neg (Nat.not_lt.mpr hx),
      if_neg (Nat.not_lt.mpr hy)]
    exact ih _ (fun a ha => hd a (List.mem_cons_of_mem _ ha)) hb

theorem durTerm_ns (ds : Str) (hne : ds ≠ []) (hd : All isDigit ds)
    (hb : Nat.ofDigitChars 10 ds 0 ≤ two63) :
    durTerm (ds ++ ['n', 's']) = some (Nat.ofDigitChars 10 ds 0, []) := by
  cases ds with
  | nil => exact absurd rfl hne
  | cons c r =>
    have hc : isDigit c = true := hd c List.mem_cons_self
    have hli := leadingInt_digits (c :: r) ['n', 's'] 0 hd (nohead_cons _ (by decide)) hb
    simp only [List.cons_append] at hli
    simp only [durTerm, List.cons_append, isNumCh, hc, Bool.or_true, Bool.not_true, Bool.false_eq_true,
      if_false, hli]
    have hpre : (['n', 's'].length != (c :: (r ++ ['n', 's'])).length) = true := by
      simp only [List.length_cons, List.length_append, List.length_nil]
      simp
    have hfp : fracPart ['n', 's'] = (0, Dbl.one, false, ['n', 's']) := by decide
    have htw : ['n', 's'].takeWhile isUnitCh = ['n', 's'] := by decide
    have hdw : ['n', 's'].dropWhile isUnitCh = [] := by decide
    have hu : unitOf ['n', 's'] = some 1 := by decide
    simp only [hpre, hfp, htw, hdw, hu, Bool.not_true, Bool.false_and, Bool.false_eq_true, if_false,
      reduceCtorEq, Nat.div_one, Nat.lt_irrefl, Nat.mul_one]
    rw [if_neg (Nat.not_lt.mpr hb)]

theorem parseDuration_ns (n : Nat) (h : n ≤ two63 - 1) :
    parseDuration (natDigits n ++ ['n', 's']) = some (n : Int) := by
  have hv := natDigits_val n
  have hle : n ≤ two63 := Nat.le_trans h (Nat.sub_le _ _)
  have hterm := durTerm_ns (natDigits n) (natDigits_ne_nil n) (natDigits_all n) (hv.symm ▸ hle)
  rw [hv] at hterm
  cases hds : natDigits n with
  | nil => exact absurd hds (natDigits_ne_nil n)
  | cons c r =>
    have hc : isDigit c = true := by
      have := natDigits_all n c; rw [hds] at this; exact this List.mem_cons_self
    rw [hds] at hterm
    simp only [List.cons_append] at hterm
    have hne0 : ¬ (c :: (r ++ ['n', 's']) = ['0']) := by simp
    have hmod : (0 + n) % two64 = n := by
      rw [Nat.zero_add]
      exact Nat.mod_eq_of_lt (Nat.lt_of_le_of_lt hle (by decide))
    simp only [parseDuration, List.cons_append, splitSign_digit _ hc, hne0, if_false, reduceCtorEq,
      List.length_cons, durLoop, hterm, hmod, Nat.not_lt.mpr hle, Nat.not_lt.mpr h, Bool.false_eq_true]

theorem atoi_digits {s : Str} (hd : All isDigit s) (hne : s ≠ []) :
    atoi s = if digitsVal s > two63 - 1 then none else some (digitsVal s : Int) := by
  cases s with
  | nil => exact absurd rfl hne
  | cons c r =>
    simp only [atoi, splitSign_digit r (hd c List.mem_cons_self), reduceCtorEq, if_false,
      List.all_eq_true.mpr hd, Bool.not_true, Bool.false_eq_true]

theorem atoi_digits_iff {s : Str} (hd : All isDigit s) :
    (∃ n, atoi s = some n) ↔ s ≠ [] ∧ Nat.ofDigitChars 10 s 0 ≤ 9223372036854775807 := by
  by_cases hne : s = []
  · subst hne
    simp [atoi, splitSign]
  · rw [atoi_digits hd hne]
    by_cases hle : digitsVal s > two63 - 1
    · rw [if_pos hle]
      exact ⟨nofun, fun h => absurd h.2 (Nat.not_le.mpr hle)⟩
    · rw [if_neg hle]
      exact ⟨fun _ => ⟨hne, Nat.not_lt.mp hle⟩, fun _ => ⟨_, rfl⟩⟩

theorem atoi_natDigits (n : Nat) (h : n ≤ two63 - 1) : atoi (natDigits n) = some (n : Int) := by
  rw [atoi_digits (natDigits_all n) (natDigits_ne_nil n), digitsVal, natDigits_val, if_neg (Nat.not_lt.mpr h)]

end PlayFile
