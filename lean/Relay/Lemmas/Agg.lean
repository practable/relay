import Relay.Model.Agg

/-!
`step true` of `Model/Agg.lean` is a panic check followed by a total update of the five tables, written out field by
field as `next` (`step_next`); the check passes as long as no stopped sub-subscription sits in the table
(`SM.AllLive`).
-/

namespace Agg

theorem mem_setAdd (u v : Sub) (l : List Sub) : v ∈ setAdd u l ↔ v = u ∨ v ∈ l := by
  unfold setAdd
  split
  · next h => exact (or_iff_right_of_imp fun e => e ▸ h).symm
  · rw [List.mem_append, List.mem_singleton, or_comm]

theorem mem_setDel (u v : Sub) (l : List Sub) : v ∈ setDel u l ↔ v ∈ l ∧ v ≠ u := by
  simp [setDel]

theorem mem_members (s : State) (st : String) (v : Sub) :
    v ∈ members s st ↔ v ∈ s.regs ∧ v.topic = st := by
  simp [members]

namespace SM

@[simp] theorem lookup_nil (k : Sub) : lookup [] k = none := rfl

theorem lookup_erase (m : SubMap) (k k' : Sub) :
    lookup (erase m k) k' = if k = k' then none else lookup m k' := by
  induction m with
  | nil => simp [lookup, erase]
  | cons p m ih =>
    obtain ⟨a, v⟩ := p
    simp only [erase, lookup]
    by_cases h1 : a = k
    · subst h1; rw [if_pos rfl, ih]; split <;> rfl
    · rw [if_neg h1]; simp only [lookup, ih]
      by_cases h2 : a = k'
      · subst h2; simp [Ne.symm h1]
      · simp [h2]

theorem lookup_insert (m : SubMap) (k k' : Sub) (v : List SubSub) :
    lookup (insert m k v) k' = if k = k' then some v else lookup m k' := by
  simp only [insert, lookup, lookup_erase]
  split <;> rfl

/-- a per-key update `g` applied for every key of `us`: `setAll` and `eraseAll` are the two instances -/
theorem lookup_foldl (g : SubMap → Sub → SubMap) (c : Option (List SubSub))
    (hg : ∀ m u k, lookup (g m u) k = if u = k then c else lookup m k)
    (m : SubMap) (us : List Sub) (k : Sub) :
    lookup (us.foldl g m) k = if k ∈ us then c else lookup m k := by
  induction us generalizing m with
  | nil => simp
  | cons u us ih =>
    rw [List.foldl_cons, ih, hg]
    by_cases hu : u = k
    · simp [hu]
    · simp [hu, Ne.symm hu]

theorem lookup_setAll (m : SubMap) (us : List Sub) (v : List SubSub) (k : Sub) :
    lookup (setAll m us v) k = if k ∈ us then some v else lookup m k :=
  lookup_foldl _ _ (fun m u k => lookup_insert m u k v) m us k

theorem lookup_eraseAll (m : SubMap) (us : List Sub) (k : Sub) :
    lookup (eraseAll m us) k = if k ∈ us then none else lookup m k :=
  lookup_foldl _ _ lookup_erase m us k

theorem lookup_mem (m : SubMap) (k : Sub) (l : List SubSub) (h : lookup m k = some l) :
    (k, l) ∈ m := by
  induction m with
  | nil => cases h
  | cons p m ih =>
    obtain ⟨a, v⟩ := p
    rw [lookup] at h
    split at h
    · next e => cases h; exact e ▸ List.mem_cons_self
    · exact List.mem_cons_of_mem _ (ih h)

theorem mem_erase (m : SubMap) (k : Sub) (kv : Sub × List SubSub) (h : kv ∈ erase m k) : kv ∈ m := by
  induction m with
  | nil => exact h
  | cons p m ih =>
    obtain ⟨a, v⟩ := p
    rw [erase] at h
    split at h
    · exact List.mem_cons_of_mem _ (ih h)
    · exact (List.mem_cons.1 h).elim (· ▸ List.mem_cons_self) fun h => List.mem_cons_of_mem _ (ih h)

/-- no sub-subscription in the table has been stopped -/
def AllLive (m : SubMap) : Prop := ∀ kv ∈ m, ∀ x ∈ kv.2, x.stopped = false

theorem allLive_nil : AllLive [] := by
  intro kv h; simp at h

theorem allLive_erase (m : SubMap) (k : Sub) (h : AllLive m) : AllLive (erase m k) :=
  fun kv hkv => h kv (mem_erase m k kv hkv)

theorem allLive_insert (m : SubMap) (k : Sub) (v : List SubSub) (h : AllLive m)
    (hv : ∀ x ∈ v, x.stopped = false) : AllLive (insert m k v) := by
  intro kv hkv
  simp only [insert, List.mem_cons] at hkv
  rcases hkv with e | e
  · subst e; exact hv
  · exact allLive_erase m k h kv e

theorem allLive_foldl (g : SubMap → Sub → SubMap) (hg : ∀ m u, AllLive m → AllLive (g m u))
    (m : SubMap) (us : List Sub) (h : AllLive m) : AllLive (us.foldl g m) := by
  induction us generalizing m with
  | nil => exact h
  | cons u us ih => exact ih _ (hg m u h)

end SM

theorem live_not_stopped (feeds : List String) : ∀ x ∈ feeds.map live, x.stopped = false := by
  intro x hx
  obtain ⟨f, _, rfl⟩ := List.mem_map.1 hx
  rfl

theorem none_stopped (l : List SubSub) (h : ∀ x ∈ l, x.stopped = false) : l.any (·.stopped) = false :=
  List.any_eq_false.2 fun x hx => Bool.eq_false_iff.1 (h x hx)

theorem anyStopped_false (m : SubMap) (us : List Sub) (h : SM.AllLive m) : anyStopped m us = false := by
  refine List.any_eq_false.2 fun u _ => Bool.eq_false_iff.1 ?_
  cases hl : SM.lookup m u with
  | none => rfl
  | some l => exact none_stopped l (h (u, l) (SM.lookup_mem m u l hl))

theorem anyStoppedAll_false (m : SubMap) (h : SM.AllLive m) : anyStoppedAll m = false :=
  List.any_eq_false.2 fun kv hkv => Bool.eq_false_iff.1 (none_stopped kv.2 (h kv hkv))

theorem liveFeeds_fresh (feeds : List String) :
    ((feeds.map live).filter (fun x => !x.stopped)).map (·.feed) = feeds := by
  induction feeds with
  | nil => rfl
  | cons f fs ih => simp [live] at ih ⊢; exact ih

section
open KV

def rulesNext (r : KV (List String)) : Op → KV (List String)
  | .add st feeds => if st = "deleteAll" then r else insert r st feeds
  | .delete st => if st = "deleteAll" then [] else erase r st
  | _ => r

/-- `Streams` (`b = true`) and the inner hub's direct registrations (`b = false`): the same update up to which
    kind of topic it applies to -/
def setNext (b : Bool) (l : List Sub) : Op → List Sub
  | .register u => if isStream u.topic = b then setAdd u l else l
  | .unregister u => if isStream u.topic = b then setDel u l else l
  | _ => l

def subsNext (s : State) : Op → SubMap
  | .register u =>
    if isStream u.topic then
      match lookup s.rules u.topic with
      | some feeds => SM.insert s.subs u (feeds.map live)
      | none => s.subs
    else s.subs
  | .unregister u => if isStream u.topic then SM.erase s.subs u else s.subs
  | .add st feeds =>
    if st = "deleteAll" then s.subs else SM.setAll s.subs (members s st) (feeds.map live)
  | .delete st =>
    if st = "deleteAll" then []
    else if has s.rules st then SM.eraseAll s.subs (members s st) else s.subs
  | .broadcast _ _ => s.subs

def orphansNext (s : State) : Op → List (Sub × String)
  | .register u =>
    if isStream u.topic ∧ has s.rules u.topic then (liveOf s.subs u).map (fun f => (u, f)) ++ s.orphans
    else s.orphans
  | _ => s.orphans

/-- `step true` is a panic check followed by this update of the five tables (`step_next`) -/
def next (s : State) (op : Op) : State :=
  ⟨rulesNext s.rules op, setNext true s.regs op, subsNext s op, setNext false s.plain op, orphansNext s op⟩

theorem step_next (s : State) (op : Op) (h : SM.AllLive s.subs) : step true s op = .ok (next s op) := by
  cases op with
  | register u =>
    simp only [step, next, rulesNext, setNext, subsNext, orphansNext, has]
    by_cases hs : isStream u.topic = true
    · simp only [hs, if_true, true_and]
      cases lookup s.rules u.topic <;> simp
    · simp [hs]
  | unregister u =>
    simp only [step, next, rulesNext, setNext, subsNext, orphansNext, anyStopped_false _ _ h]
    by_cases hs : isStream u.topic = true <;> simp [hs]
  | add st feeds =>
    simp only [step, next, rulesNext, setNext, subsNext, orphansNext, anyStopped_false _ _ h, Bool.and_false]
    by_cases hd : st = "deleteAll"
    · simp only [if_pos hd]
    · simp only [if_neg hd]; rfl
  | delete st =>
    simp only [step, next, rulesNext, setNext, subsNext, orphansNext, anyStoppedAll_false _ h, anyStopped_false _ _ h]
    by_cases hd : st = "deleteAll"
    · simp only [if_pos hd]; rfl
    · by_cases hh : has s.rules st = true
      · simp only [if_neg hd, if_pos hh]; rfl
      · simp only [if_neg hd, if_neg hh]
  | broadcast t sn => rfl

theorem lookup_rulesNext (r : KV (List String)) (op : Op) (st : String) :
    lookup (rulesNext r op) st = ruleStep st (lookup r st) op := by
  cases op with
  | add stream feeds =>
    by_cases hd : stream = "deleteAll"
    · simp only [rulesNext, ruleStep, if_pos hd]
    · simp only [rulesNext, ruleStep, if_neg hd, lookup_insert]
  | delete stream =>
    by_cases hd : stream = "deleteAll"
    · simp only [rulesNext, ruleStep, if_pos hd, lookup_nil]
    · simp only [rulesNext, ruleStep, if_neg hd, lookup_erase]
  | _ => rfl

theorem mem_setNext (b : Bool) (l : List Sub) (op : Op) (u : Sub) (hu : isStream u.topic = b) :
    decide (u ∈ setNext b l op) = regStep u (decide (u ∈ l)) op := by
  cases op with
  | register v =>
    simp only [setNext, regStep]
    by_cases e : v = u
    · subst e; simp [hu, mem_setAdd]
    · split <;> simp [mem_setAdd, Ne.symm e]
  | unregister v =>
    simp only [setNext, regStep]
    by_cases e : v = u
    · subst e; simp [hu, mem_setDel]
    · split <;> simp [mem_setDel, Ne.symm e]
  | _ => rfl

theorem setNext_sub (b : Bool) (l : List Sub) (op : Op) (v : Sub) (h : v ∈ setNext b l op) :
    v ∈ l ∨ isStream v.topic = b := by
  cases op with
  | register u =>
    rw [setNext] at h
    split at h
    next hk => exact ((mem_setAdd u v l).1 h).elim (fun e => Or.inr (e ▸ hk)) Or.inl
    · exact Or.inl h
  | unregister u =>
    rw [setNext] at h
    split at h
    · exact Or.inl ((mem_setDel u v l).1 h).1
    · exact Or.inl h
  | _ => exact Or.inl h

theorem mem_foldl_setNext (b : Bool) (ops : List Op) (u : Sub) :
    u ∈ ops.foldl (setNext b) [] ↔ isStream u.topic = b ∧ registered ops u = true := by
  have kind : u ∈ ops.foldl (setNext b) [] → isStream u.topic = b :=
    List.foldlRecOn (motive := fun l => u ∈ l → isStream u.topic = b) ops (setNext b) nofun
      (fun l ih op _ hu => (setNext_sub b l op u hu).elim ih id)
  have hom : isStream u.topic = b → decide (u ∈ ops.foldl (setNext b) []) = registered ops u := fun hu =>
    (List.foldl_hom (fun l => decide (u ∈ l)) (fun l op => (mem_setNext b l op u hu).symm)).symm
  constructor
  · intro h
    exact ⟨kind h, by rw [← hom (kind h)]; exact decide_eq_true h⟩
  · rintro ⟨hs, hr⟩
    rw [← hom hs] at hr
    exact of_decide_eq_true hr

theorem allLive_subsNext (s : State) (op : Op) (hl : SM.AllLive s.subs) : SM.AllLive (subsNext s op) := by
  have ins m u (feeds : List String) h := SM.allLive_insert m u (feeds.map live) h (live_not_stopped feeds)
  cases op with
  | register u =>
    refine iteInduction (fun _ => ?_) (fun _ => hl)
    cases lookup s.rules u.topic with
    | none => exact hl
    | some feeds => exact ins _ u feeds hl
  | unregister u => exact iteInduction (fun _ => SM.allLive_erase _ u hl) (fun _ => hl)
  | add st feeds =>
    -- `deleteAll` is refused; any other stream: `setAll`
    refine iteInduction (fun _ => hl) fun _ => ?_
    exact SM.allLive_foldl _ (fun m u h => ins m u feeds h) _ _ hl
  | delete st =>
    -- `deleteAll` empties the map
    refine iteInduction (fun _ => SM.allLive_nil) fun _ => ?_
    -- a stream with a rule: `eraseAll`; without: nothing
    refine iteInduction (fun _ => ?_) (fun _ => hl)
    exact SM.allLive_foldl _ SM.allLive_erase _ _ hl
  | broadcast t sn => exact hl

end

/-! ### stalled subscribers (`Full`, `fstep`) -/

theorem stallOp_core (f : Full) (u : Sub) (k : Nat) : (stallOp f u k).core = f.core := by
  unfold stallOp; cases roomOf f.room u <;> rfl

theorem stallOp_items (f : Full) (u : Sub) (k : Nat) : (stallOp f u k).items = f.items := by
  unfold stallOp; cases roomOf f.room u <;> rfl

theorem tableStep_core (f : Full) (c : State) (op : Op) : (tableStep f c op).1.core = c := by
  unfold tableStep; cases op <;> rfl

theorem roomOf_eq (room : List (Sub × Nat)) (u : Sub) :
    roomOf room u = (room.find? (fun p => p.1 = u)).map (·.2) := by
  induction room with
  | nil => rfl
  | cons p room ih => by_cases h : p.1 = u <;> simp [roomOf, h, ih]

theorem roomOf_mem (room : List (Sub × Nat)) (u : Sub) (r : Nat) (h : (u, r) ∈ room) :
    (roomOf room u).isSome = true := by
  simp only [roomOf_eq, Option.isSome_map, List.find?_isSome]
  exact ⟨_, h, by simp⟩

theorem roomOf_map (room : List (Sub × Nat)) (g : Sub × Nat → Nat) (u : Sub) :
    (roomOf (room.map (fun p => (p.1, g p))) u).isSome = (roomOf room u).isSome := by
  simp [roomOf_eq, List.find?_map, Function.comp_def]

theorem roomOf_filter_self (room : List (Sub × Nat)) (u : Sub) :
    roomOf (room.filter (·.1 ≠ u)) u = none := by
  simp [roomOf_eq]

theorem roomOf_filter_ne (room : List (Sub × Nat)) (u v : Sub) (h : v ≠ u) :
    roomOf (room.filter (·.1 ≠ u)) v = roomOf room v := by
  simp only [roomOf_eq, List.find?_filter]
  congr 2; funext a
  by_cases e : a.1 = v <;> simp [e, h]

theorem tableStep_room (f : Full) (c : State) (op : Op) (u : Sub) :
    (roomOf (tableStep f c op).1.room u).isSome = (roomOf f.room u).isSome := by
  unfold tableStep
  cases op <;> simp only [Op.bcOf]
  exact roomOf_map _ _ u

theorem stallOp_room (f : Full) (v : Sub) (k : Nat) (u : Sub) :
    (roomOf (stallOp f v k).room u).isSome = if v = u then true else (roomOf f.room u).isSome := by
  unfold stallOp
  cases hr : roomOf f.room v with
  | some r =>
    -- stalled already: nothing changes
    show (roomOf f.room u).isSome = _
    split
    · next e => exact e ▸ congrArg Option.isSome hr
    · rfl
  | none => exact apply_ite Option.isSome (v = u) (some k) (roomOf f.room u)

theorem unstallOp_room (f : Full) (v u : Sub) :
    (roomOf (unstallOp f v).room u).isSome = if v = u then false else (roomOf f.room u).isSome := by
  unfold unstallOp
  split
  · next e => rw [← e, roomOf_filter_self]; rfl
  · next e => rw [roomOf_filter_ne _ _ _ (Ne.symm e)]

theorem retag_addr (s : State) (items : List Item) (op : Op) :
    (retag s items op).map (fun i => (i.to, i.msg)) = items.map (fun i => (i.to, i.msg)) := by
  have hold (p : Item → Prop) [DecidablePred p] (k : Hold) :
      (items.map (fun i => if p i then { i with hold := k } else i)).map (fun i => (i.to, i.msg)) =
        items.map (fun i => (i.to, i.msg)) := by
    rw [List.map_map]
    apply List.map_congr_left
    intro i _
    simp only [Function.comp]
    split <;> rfl
  cases op with
  | register u =>
    simp only [retag]
    cases KV.lookup s.rules u.topic <;> simp only [orphanize, apply_ite (List.map _), hold, ite_self]
  | broadcast t sn => rfl
  | _ => simp only [retag, zombify, zombifyAll, apply_ite (List.map _), hold, ite_self]

theorem takeIn_mem (u : Sub) (m : Msg) (r n : Nat) (k : Option Hold) (i : Item)
    (h : i ∈ (takeIn u m r n k).2) : i.to = u ∧ i.msg = m ∧ 0 < n := by
  -- either part is a `replicate` of an item for `u` carrying `m`, and is empty when `n = 0`
  unfold takeIn at h
  rcases List.mem_append.1 h with h | h
  · obtain ⟨h0, rfl⟩ := List.mem_replicate.1 h
    exact ⟨rfl, rfl, by omega⟩
  · cases k with
    | none => cases h
    | some k =>
      obtain ⟨h0, rfl⟩ := List.mem_replicate.1 h
      exact ⟨rfl, rfl, by omega⟩

theorem bcStalled_mem (f : Full) (u : Sub) (r : Nat) (t sn : String) (i : Item)
    (h : i ∈ (bcStalled f u r t sn).2) :
    i.to = u ∧ i.msg = ⟨t, f.seq⟩ ∧ 0 < incoming f u t sn := by
  unfold bcStalled at h
  simp only [List.mem_append] at h
  unfold incoming
  -- the item comes from one of the three `takeIn`s, and the count of each is a summand of `incoming`
  rcases h with (h | h) | h
  all_goals
    obtain ⟨hto, hmsg, hn⟩ := takeIn_mem _ _ _ _ _ _ h
    exact ⟨hto, hmsg, by omega⟩

end Agg
