import Relay.Model.Status

/-!
# Which field of `pkg/status` each emitted JSON key lands in

`encoding/json` takes a key for a field when the two agree under case folding (`keyIs`).  That no two
field names of `status.Report` agree, and that no snake-case name of the REST schema agrees with any of
them, is a finite table: each is stated once, as a statement about the list of names, and checked by one
evaluation in the kernel (a whole table costs a few times what one comparison of two string literals
costs on its own).  From the tables follow the equations saying what `assignReport`, `assignTmpS`,
`assignTmpN` do on each of their names; the decoding proofs rewrite with those and never compare keys.
-/

namespace Status

/-- the JSON names of `status.Report`, in the order `assignReport` tries them -/
def reportNames : List String :=
  ["canRead", "canWrite", "connected", "expiresAt", "remoteAddr", "scopes", "stats", "topic", "userAgent"]

/-- the names only `models.Report` (the REST schema) uses -/
def restOnlyNames : List String := ["can_read", "can_write", "expires_at", "remote_addr", "user_agent"]

theorem keyIs_self (k : String) : keyIs k k = true := beq_self_eq_true _

theorem reportNames_distinct : reportNames.Pairwise fun a b => keyIs b a = false := by decide +kernel

theorem restOnlyNames_unknown : ∀ k ∈ restOnlyNames, ∀ n ∈ reportNames, keyIs k n = false := by decide +kernel

theorem statsNames_distinct :
    keyIs "rx" "tx" = false ∧ keyIs "size" "last" = false ∧ keyIs "fps" "last" = false ∧
      keyIs "fps" "size" = false := by decide +kernel

/-- what `assignReport` does with the members of a `stats` object -/
def assignDir (r : Report) (kv : String × Json) : Option Report :=
  if keyIs kv.1 "tx" then (decodeStatistics r.tx kv.2).map fun x => { r with tx := x }
  else if keyIs kv.1 "rx" then (decodeStatistics r.rx kv.2).map fun x => { r with rx := x }
  else some r

theorem assignReport_names (r : Report) (v : Json) :
    assignReport r ("canRead", v) = (decBool r.canRead v).map (fun x => { r with canRead := x }) ∧
    assignReport r ("canWrite", v) = (decBool r.canWrite v).map (fun x => { r with canWrite := x }) ∧
    assignReport r ("connected", v) = (decTime r.connected v).map (fun x => { r with connected := x }) ∧
    assignReport r ("expiresAt", v) = (decTime r.expiresAt v).map (fun x => { r with expiresAt := x }) ∧
    assignReport r ("remoteAddr", v) = (decString r.remoteAddr v).map (fun x => { r with remoteAddr := x }) ∧
    assignReport r ("scopes", v) = (decStrings v).map (fun x => { r with scopes := x }) ∧
    assignReport r ("stats", v) =
      (match v with | .null => some r | .obj kvs => kvs.foldlM assignDir r | _ => none) ∧
    assignReport r ("topic", v) = (decString r.topic v).map (fun x => { r with topic := x }) ∧
    assignReport r ("userAgent", v) = (decString r.userAgent v).map (fun x => { r with userAgent := x }) := by
  have h := reportNames_distinct
  simp only [reportNames, List.pairwise_cons, List.forall_mem_cons, List.not_mem_nil, List.Pairwise.nil, and_true,
    false_imp_iff, implies_true] at h
  unfold assignReport
  simp only [h, keyIs_self, ↓reduceIte, Bool.false_eq_true, true_and, and_true]
  -- left over is the `stats` conjunct: `assignDir` is, word for word, the function `assignReport` folds with
  rfl

theorem assignDir_names (r : Report) (v : Json) :
    assignDir r ("tx", v) = (decodeStatistics r.tx v).map (fun x => { r with tx := x }) ∧
    assignDir r ("rx", v) = (decodeStatistics r.rx v).map (fun x => { r with rx := x }) := by
  simp only [assignDir, statsNames_distinct, keyIs_self, ↓reduceIte, Bool.false_eq_true, and_self]

theorem assignReport_unknown (r : Report) (k : String) (v : Json) (h : ∀ n ∈ reportNames, keyIs k n = false) :
    assignReport r (k, v) = some r := by
  simp only [reportNames, List.forall_mem_cons, List.not_mem_nil, false_imp_iff, implies_true, and_true] at h
  unfold assignReport
  simp only [h, ↓reduceIte, Bool.false_eq_true]

theorem assignTmpS_names (t : TmpS) (v : Json) :
    assignTmpS t ("last", v) = (decString t.last v).map (fun x => { t with last := x }) ∧
    assignTmpS t ("size", v) = (decFloat t.size v).map (fun x => { t with size := x }) ∧
    assignTmpS t ("fps", v) = (decFloat t.fps v).map (fun x => { t with fps := x }) := by
  simp only [assignTmpS, statsNames_distinct, keyIs_self, ↓reduceIte, Bool.false_eq_true, and_self]

theorem assignTmpN_names (t : TmpN) (v : Json) :
    assignTmpN t ("last", v) = (decInt64 t.last v).map (fun x => { t with last := x }) ∧
    assignTmpN t ("size", v) = (decFloat t.size v).map (fun x => { t with size := x }) ∧
    assignTmpN t ("fps", v) = (decFloat t.fps v).map (fun x => { t with fps := x }) := by
  simp only [assignTmpN, statsNames_distinct, keyIs_self, ↓reduceIte, Bool.false_eq_true, and_self]

end Status
