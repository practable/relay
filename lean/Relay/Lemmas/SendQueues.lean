import Relay.Base.GoLite

/-!
# The environment both translated hubs are composed with, for any message type

A hub's non-blocking sends of one step come back as a log `List (Go.Chan × μ)`. The environment keeps a queue
`Go.Chan → List μ` behind every channel, appends the sends of a step in order (`enqueue`), lets a reader take messages
off the front (`drain`). What a log puts on one channel is `perChan`. The facts the end-to-end proofs need are all
about a log whose channels are pairwise different (one send per client): it adds at most one message to a queue, so a
queue that had room stays within its capacity.

The second part is about the list of clients registered so far: it grows by one fresh client at a time, and
"different clients have different channels/addresses" is kept.
-/

namespace SendQ
variable {μ : Type}

def perChan (ch : Go.Chan) (l : List (Go.Chan × μ)) : List μ := (l.filter (fun p => p.1 == ch)).map (·.2)

/-- `ch <- m` that went through -/
def push (q : Go.Chan → List μ) (ch : Go.Chan) (m : μ) : Go.Chan → List μ :=
  fun ch' => if ch' = ch then q ch' ++ [m] else q ch'

def enqueue (q : Go.Chan → List μ) (out : List (Go.Chan × μ)) : Go.Chan → List μ :=
  out.foldl (fun q p => push q p.1 p.2) q

def drain (q : Go.Chan → List μ) (ch : Go.Chan) (n : Nat) : Go.Chan → List μ :=
  fun ch' => if ch' = ch then (q ch').drop n else q ch'

theorem perChan_cons (ch : Go.Chan) (p : Go.Chan × μ) (l : List (Go.Chan × μ)) :
    perChan ch (p :: l) = if p.1 = ch then p.2 :: perChan ch l else perChan ch l := by
  by_cases h : p.1 = ch <;> simp [perChan, h]

theorem perChan_append (ch : Go.Chan) (l l' : List (Go.Chan × μ)) :
    perChan ch (l ++ l') = perChan ch l ++ perChan ch l' := by
  simp only [perChan, List.filter_append, List.map_append]

theorem perChan_eq_nil {ch : Go.Chan} {l : List (Go.Chan × μ)} (h : ch ∉ l.map (·.1)) : perChan ch l = [] := by
  simp only [perChan, List.map_eq_nil_iff, List.filter_eq_nil_iff, beq_iff_eq]
  exact fun p hp e => h (List.mem_map.2 ⟨p, hp, e⟩)

theorem perChan_fanout {κ : Type} (send : κ → Go.Chan) (m : μ) (cs : List κ) (hnd : (cs.map send).Nodup)
    (ch : Go.Chan) : perChan ch (cs.map fun c => (send c, m)) = if ch ∈ cs.map send then [m] else [] := by
  induction cs with
  | nil => rfl
  | cons c cs ih =>
    obtain ⟨hc, hcs⟩ := List.nodup_cons.1 hnd
    rw [List.map_cons, perChan_cons, ih hcs, List.map_cons]
    by_cases h : send c = ch
    · rw [if_pos h, if_neg (h ▸ hc), if_pos (h ▸ List.mem_cons_self)]
    · simp only [if_neg h, List.mem_cons, Ne.symm h, false_or]

theorem enqueue_apply (q : Go.Chan → List μ) (out : List (Go.Chan × μ)) (ch : Go.Chan) :
    enqueue q out ch = q ch ++ perChan ch out := by
  unfold enqueue
  induction out generalizing q with
  | nil => exact (List.append_nil _).symm
  | cons p out ih =>
    rw [List.foldl_cons, ih, perChan_cons, push]
    by_cases h : p.1 = ch
    · simp [h]
    · rw [if_neg h, if_neg (fun e => h e.symm)]

theorem enqueue_length_le (q : Go.Chan → List μ) (out : List (Go.Chan × μ)) (hnd : (out.map (·.1)).Nodup)
    (ch : Go.Chan) : (enqueue q out ch).length ≤ (q ch).length + 1 := by
  rw [enqueue_apply, List.length_append]
  refine Nat.add_le_add_left ?_ _
  induction out with
  | nil => exact Nat.zero_le 1
  | cons p out ih =>
    obtain ⟨hp, hl⟩ := List.nodup_cons.1 hnd
    rw [perChan_cons]
    by_cases h : p.1 = ch
    · rw [if_pos h, perChan_eq_nil (h ▸ hp)]
      exact Nat.le_refl 1
    · rw [if_neg h]
      exact ih hl

theorem enqueue_bounded (q : Go.Chan → List μ) (cap : Go.Chan → Nat) (out : List (Go.Chan × μ))
    (hb : ∀ ch, (q ch).length ≤ cap ch) (hnd : (out.map (·.1)).Nodup)
    (hroom : ∀ p ∈ out, (q p.1).length < cap p.1) (ch : Go.Chan) : (enqueue q out ch).length ≤ cap ch := by
  by_cases hmem : ch ∈ out.map (·.1)
  · obtain ⟨p, hp, e⟩ := List.mem_map.1 hmem
    subst e
    exact Nat.le_trans (enqueue_length_le q out hnd p.1) (hroom p hp)
  · rw [enqueue_apply, perChan_eq_nil hmem, List.append_nil]
    exact hb ch

theorem drain_length_le (q : Go.Chan → List μ) (ch : Go.Chan) (n : Nat) (ch' : Go.Chan) :
    (drain q ch n ch').length ≤ (q ch').length := by
  unfold drain
  split
  · rw [List.length_drop]; exact Nat.sub_le _ _
  · exact Nat.le_refl _

section Registered
variable {κ β : Type}

abbrev InjOn (f : κ → β) (l : List κ) : Prop := ∀ a ∈ l, ∀ b ∈ l, f a = f b → a = b

theorem nodup_map_of_injOn (f : κ → β) {l reg : List κ} (hnd : l.Nodup) (hsub : ∀ a ∈ l, a ∈ reg)
    (hinj : InjOn f reg) : (l.map f).Nodup :=
  List.pairwise_map.2 (hnd.imp_of_mem fun ha hb hne e => hne (hinj _ (hsub _ ha) _ (hsub _ hb) e))

theorem map_mem_iff (f : κ → β) {l : List κ} {c : κ} (h : ∀ a ∈ l, f a = f c → a = c) : f c ∈ l.map f ↔ c ∈ l :=
  ⟨fun hm => by obtain ⟨a, ha, e⟩ := List.mem_map.1 hm; exact h a ha e ▸ ha, List.mem_map_of_mem⟩

theorem nodup_snoc (l : List κ) (c : κ) (hnd : l.Nodup) (hc : c ∉ l) : (l ++ [c]).Nodup :=
  List.nodup_append.2 ⟨hnd, List.nodup_cons.2 ⟨List.not_mem_nil, List.nodup_nil⟩,
    fun _ ha _ hb e => hc (List.mem_singleton.1 hb ▸ e ▸ ha)⟩

theorem injOn_snoc (f : κ → β) (l : List κ) (c : κ) (hinj : InjOn f l) (hc : ∀ a ∈ l, f a ≠ f c) :
    InjOn f (l ++ [c]) := by
  intro a ha b hb e
  rcases List.mem_append.1 ha with ha | ha <;> rcases List.mem_append.1 hb with hb | hb
  · exact hinj a ha b hb e
  · rw [List.mem_singleton.1 hb] at e; exact absurd e (hc a ha)
  · rw [List.mem_singleton.1 ha] at e; exact absurd e.symm (hc b hb)
  · rw [List.mem_singleton.1 ha, List.mem_singleton.1 hb]

end Registered

end SendQ
