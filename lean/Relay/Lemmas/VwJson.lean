/-!
# A sound under-approximation of the JSON text grammar (RFC 8259), used by C18

`IsJson cs` is an inductively generated set of character lists.  Every member is a JSON text:
the constructors are exactly the RFC productions for `null`/`true`/`false`, string literals
(unescaped characters ≥ U+0020 other than `"` and `\`; the two-character escapes; `\uXXXX`),
arrays and objects, **without** insignificant white space and without numbers (the replies
of the host's control API never contain a number).  It is used in two ways:

* as the *conclusion* "this reply is valid JSON" for the replies the Go code builds itself
  (byte literals such as `{"healthcheck":"ok"}` and the concatenation
  `{"feeds":` ++ json.Marshal(..) ++ `}`): an argument by construction — we exhibit the derivation;
* as the *assumption* about `encoding/json`: `json.Marshal` of the (string-only) values the API
  hands to it returns a member of this set.

Only derivations are ever *constructed*; nothing is proved by inversion on `IsJson`, so the
predicate being an under-approximation can only make the theorems harder, never unsound.
-/

namespace VwJson

/-- a character that may appear unescaped inside a JSON string literal -/
def plainChar (c : Char) : Bool := decide (0x20 ≤ c.toNat) && c != '"' && c != '\\'

/-- the character after a backslash in a two-character escape -/
def escChar (c : Char) : Bool :=
  c == '"' || c == '\\' || c == '/' || c == 'b' || c == 'f' || c == 'n' || c == 'r' || c == 't'

def hexChar (c : Char) : Bool :=
  (decide ('0' ≤ c) && decide (c ≤ '9')) || (decide ('a' ≤ c) && decide (c ≤ 'f')) ||
  (decide ('A' ≤ c) && decide (c ≤ 'F'))

/-- the characters between the quotes of a JSON string literal -/
inductive StrBody : List Char → Prop
  | nil : StrBody []
  | plain {c : Char} {cs : List Char} : plainChar c = true → StrBody cs → StrBody (c :: cs)
  | esc {c : Char} {cs : List Char} : escChar c = true → StrBody cs → StrBody ('\\' :: c :: cs)
  | uni {a b c d : Char} {cs : List Char} :
      hexChar a = true → hexChar b = true → hexChar c = true → hexChar d = true →
      StrBody cs → StrBody ('\\' :: 'u' :: a :: b :: c :: d :: cs)

def quoted (cs : List Char) : List Char := '"' :: (cs ++ ['"'])

def joinComma : List (List Char) → List Char
  | [] => []
  | [x] => x
  | x :: y :: r => x ++ (',' :: joinComma (y :: r))

/-- `"key":value` -/
def member (kv : List Char × List Char) : List Char := quoted kv.1 ++ (':' :: kv.2)

inductive IsJson : List Char → Prop
  | null : IsJson ['n', 'u', 'l', 'l']
  | tt : IsJson ['t', 'r', 'u', 'e']
  | ff : IsJson ['f', 'a', 'l', 's', 'e']
  | str {cs : List Char} : StrBody cs → IsJson (quoted cs)
  | arr (vs : List (List Char)) : (∀ v ∈ vs, IsJson v) → IsJson ('[' :: (joinComma vs ++ [']']))
  | obj (kvs : List (List Char × List Char)) :
      (∀ kv ∈ kvs, StrBody kv.1) → (∀ kv ∈ kvs, IsJson kv.2) →
      IsJson ('{' :: (joinComma (kvs.map member) ++ ['}']))

/-- the reply, as text, is a JSON value -/
def ValidJson (s : String) : Prop := IsJson s.toList

theorem strBody_of_all_plain : ∀ (cs : List Char), cs.all plainChar = true → StrBody cs
  | [], _ => .nil
  | c :: cs, h => by
    simp only [List.all_cons, Bool.and_eq_true] at h
    exact .plain h.1 (strBody_of_all_plain cs h.2)

/-- `{"k":v}` for a key that needs no escaping -/
theorem isJson_obj1 (k v : List Char) (hk : k.all plainChar = true) (hv : IsJson v) :
    IsJson ('{' :: '"' :: (k ++ '"' :: ':' :: (v ++ ['}']))) := by
  have h := IsJson.obj [(k, v)] (List.forall_mem_singleton.2 (strBody_of_all_plain k hk))
    (List.forall_mem_singleton.2 hv)
  simpa [joinComma, member, quoted, List.append_assoc] using h

/-- `{"k":"s"}` for a key and a string value that need no escaping -/
theorem isJson_obj1_str (k s : List Char) (hk : k.all plainChar = true)
    (hs : s.all plainChar = true) :
    IsJson ('{' :: '"' :: (k ++ '"' :: ':' :: '"' :: (s ++ ['"', '}']))) := by
  have h := isJson_obj1 k (quoted s) hk (.str (strBody_of_all_plain s hs))
  simpa [quoted, List.append_assoc] using h

/-- For byte literals: a literal is `String.ofList` of its characters by definition, whereas `toList` of
    a literal has to decode its bytes one by one, so keys and values are given as character lists. -/
theorem validJson_ofList {cs : List Char} (h : IsJson cs) : ValidJson (String.ofList cs) := by
  unfold ValidJson
  rw [String.toList_ofList]
  exact h

/-- `{"key":` ++ m ++ `}`, the construction of the stream `list` command.  The key is given by its characters
    as in `validJson_ofList`: for a list `k` of character literals the two `String.ofList` below are by
    definition the string literals `"{\"key\":"` and `"}"` that the caller writes. -/
theorem validJson_wrap_obj1 (k : List Char) (m : String) (hk : k.all plainChar = true) (hm : ValidJson m) :
    ValidJson (String.ofList ('{' :: '"' :: (k ++ ['"', ':'])) ++ m ++ String.ofList ['}']) := by
  unfold ValidJson at *
  simpa [String.toList_append, String.toList_ofList, List.append_assoc] using isJson_obj1 k m.toList hk hm

theorem lit_healthcheck_valid : ValidJson "{\"healthcheck\":\"ok\"}" :=
  validJson_ofList  -- "healthcheck", "ok"
    (isJson_obj1_str ['h', 'e', 'a', 'l', 't', 'h', 'c', 'h', 'e', 'c', 'k'] ['o', 'k'] (by decide) (by decide))

example : ValidJson "{\"healthcheck\":\"ok\"}" := lit_healthcheck_valid

example : ValidJson "[\"a\\n\",null,{\"k\":[]}]" :=
  validJson_ofList <| .arr [quoted ['a', '\\', 'n'], ['n', 'u', 'l', 'l'], ['{', '"', 'k', '"', ':', '[', ']', '}']] <| by
    intro v hv
    simp only [List.mem_cons, List.not_mem_nil, or_false] at hv
    rcases hv with rfl | rfl | rfl
    · exact .str (.plain (c := 'a') (by decide) (.esc (c := 'n') (by decide) .nil))
    · exact .null
    · exact isJson_obj1 ['k'] ['[', ']'] (by decide) (.arr [] nofun)

end VwJson
