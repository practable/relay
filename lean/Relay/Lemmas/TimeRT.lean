import Relay.Base.TimeText
import Relay.Lemmas.DurationRT

/-! # `Time.UnmarshalJSON` reads back what `MarshalText` wrote (years 0..9999) -/

namespace TimeText
open Dur

/-- A block of four periods of `P` days and one day more, the leap day, which is the last day of the
    block: the period `n` (0..3) that day `r` of the block falls into, the extra day counted to the
    fourth period, and the day `r - n * P` within the period.  Used for the centuries of an era
    (`P = 36524`) and for the years of a four-year cycle (`P = 365`). -/
theorem clamp (P r : Int) (hP : 0 < P) (h0 : 0 ≤ r) (h1 : r ≤ 4 * P) (n : Int)
    (hn : n = if r / P > 3 then 3 else r / P) :
    0 ≤ n ∧ n ≤ 3 ∧ 0 ≤ r - n * P ∧ r - n * P ≤ P ∧ (r - n * P = P → r = 4 * P ∧ n = 3) := by
  subst hn
  rcases Int.lt_or_eq_of_le h1 with hlt | rfl
  · have hq0 : 0 ≤ r / P := Int.ediv_nonneg h0 (Int.le_of_lt hP)
    have hq : r / P < 4 := Int.ediv_lt_of_lt_mul hP hlt
    have hm : r - r / P * P = r % P := by rw [Int.emod_def, Int.mul_comm]
    have hl := Int.emod_lt_of_pos r hP
    rw [if_neg (by omega), hm]
    exact ⟨hq0, by omega, Int.emod_nonneg r (Int.ne_of_gt hP), Int.le_of_lt hl, fun h => absurd h (Int.ne_of_lt hl)⟩
  · rw [Int.mul_ediv_cancel 4 (Int.ne_of_gt hP), if_pos (by decide)]
    exact ⟨by decide, by decide, by omega, by omega, fun _ => ⟨rfl, rfl⟩⟩

/-- a century of 36524 days is 24 four-year cycles and a 25th that lacks its leap day; the fourth
    century of an era has one day more (`clamp`), which completes that cycle -/
theorem century_cycles (r1 b r2 : Int) (hr1 : 0 ≤ r1 ∧ r1 ≤ 36524) (hr2 : 0 ≤ r2 ∧ r2 < 1461)
    (hB : b * 1461 + r2 = r1) : 0 ≤ b ∧ b ≤ 24 ∧ (b = 24 → r2 = 4 * 365 → r1 = 36524) := by
  omega

theorem yoe_days (a b c y : Int) (ha : 0 ≤ a ∧ a ≤ 3) (hb : 0 ≤ b ∧ b ≤ 24) (hc : 0 ≤ c ∧ c ≤ 3)
    (hy : y = a * 100 + b * 4 + c) :
    0 ≤ y ∧ y ≤ 399 ∧ y * 365 + y / 4 - y / 100 = a * 36524 + (b * 1461 + c * 365) := by
  omega

/-- the last year of a four-year cycle is a leap year of the civil calendar (the years of era `e`
    are `e * 400 + …`; January and February, where the leap day lies, belong to the civil year after
    the March-based one: `+ 1`), unless it ends a century that does not end the era -/
theorem yoe_leap (e a b y : Int) (hb : 0 ≤ b ∧ b ≤ 24) (hy : y = a * 100 + b * 4 + 3) (h : b = 24 → a = 3) :
    (e * 400 + y + 1) % 4 = 0 ∧ ((e * 400 + y + 1) % 100 ≠ 0 ∨ (e * 400 + y + 1) % 400 = 0) := by
  omega

/-- Year-of-era and day-of-year from the day number within a 400-year era.  Day 365 of a year is the
    last day of its four-year cycle; in the 25th cycle of a century that day exists only in the fourth
    century, which is what makes the year a leap year.  The arithmetic of each level of the cascade
    stands in a lemma of its own: `omega` reads the whole context, and its cost grows with every
    product in it. -/
theorem era_split (r : Int) (h0 : 0 ≤ r) (h1 : r < 146097) :
    let n100 := if r / 36524 > 3 then 3 else r / 36524
    let r1 := r - n100 * 36524
    let n4 := r1 / 1461
    let r2 := r1 % 1461
    let n1 := if r2 / 365 > 3 then 3 else r2 / 365
    let doy := r2 - n1 * 365
    let yoe := n100 * 100 + n4 * 4 + n1
    0 ≤ yoe ∧ yoe ≤ 399 ∧ 0 ≤ doy ∧ doy ≤ 365 ∧
    yoe * 365 + yoe / 4 - yoe / 100 + doy = r ∧
    (doy = 365 → ∀ e : Int, (e * 400 + yoe + 1) % 4 = 0 ∧
      ((e * 400 + yoe + 1) % 100 ≠ 0 ∨ (e * 400 + yoe + 1) % 400 = 0)) := by
  intro n100 r1 n4 r2 n1 doy yoe
  obtain ⟨hn100_0, hn100_3, hr1_0, hr1_le, hlastDay⟩ := clamp 36524 r (by decide) h0 (by omega) n100 rfl
  have hr2 : 0 ≤ r2 ∧ r2 < 1461 := ⟨Int.emod_nonneg r1 (by decide), Int.emod_lt_of_pos r1 (by decide)⟩
  obtain ⟨hn1_0, hn1_3, hdoy_0, hdoy_le, hdoy365⟩ :=
    clamp 365 r2 (by decide) hr2.1 (Int.le_of_lt_add_one hr2.2) n1 rfl
  have hB : n4 * 1461 + r2 = r1 := Int.ediv_mul_add_emod r1 1461
  obtain ⟨hn4_0, hn4_24, hcycle25⟩ := century_cycles r1 n4 r2 ⟨hr1_0, hr1_le⟩ hr2 hB
  obtain ⟨hyoe_0, hyoe_399, hdays⟩ :=
    yoe_days n100 n4 n1 yoe ⟨hn100_0, hn100_3⟩ ⟨hn4_0, hn4_24⟩ ⟨hn1_0, hn1_3⟩ rfl
  refine ⟨hyoe_0, hyoe_399, hdoy_0, hdoy_le, ?_, ?_⟩
  · -- `r1`, `r2`, `doy` are the remainders left by the three levels
    rw [hdays]
    omega
  · intro h e
    -- day 365 is the last day of its four-year cycle, in the last year of it
    obtain ⟨hr2_last, hn1_last⟩ : r2 = 4 * 365 ∧ n1 = 3 := hdoy365 h
    -- in the 25th cycle of a century that day exists only in the fourth century
    have hfourth : n4 = 24 → n100 = 3 := fun hn4 => (hlastDay (hcycle25 hn4 hr2_last)).2
    exact yoe_leap e n100 n4 yoe ⟨hn4_0, hn4_24⟩ (congrArg (n100 * 100 + n4 * 4 + ·) hn1_last) hfourth

/-- Month and day from the day of the (March-based) year.  `(153 * mp + 2) / 5` is the first day of month
    `mp`, and `(153 * mp + 2) / 5 ≤ doy ↔ mp ≤ (5 * doy + 2) / 153` for all `mp`, `doy` (both say
    `153 * mp ≤ 5 * doy + 2`), so no table of months is needed: the bounds are linear in `mp`, and the
    30-day months and February fix `mp` by hypothesis. -/
theorem month_split (doy mp d m : Int) (h0 : 0 ≤ doy) (h1 : doy ≤ 365) (hmp : mp = (5 * doy + 2) / 153)
    (hd : d = doy - (153 * mp + 2) / 5 + 1) (hm : m = if mp < 10 then mp + 3 else mp - 9) :
    1 ≤ m ∧ m ≤ 12 ∧ 1 ≤ d ∧ d ≤ 31 ∧
    ((m = 4 ∨ m = 6 ∨ m = 9 ∨ m = 11) → d ≤ 30) ∧
    (m = 2 → d ≤ 29 ∧ (d = 29 → doy = 365)) ∧
    (153 * mp + 2) / 5 + d - 1 = doy ∧ (if m > 2 then m - 3 else m + 9) = mp := by
  split at hm <;> split <;> omega

/-- `daysFromCivil` on a date given as `civil` builds it: era `e`, year of the era `yoe`, day of the year `doy` -/
theorem daysFromCivil_eq (e yoe doy mp m d : Int) (h0 : 0 ≤ yoe) (h1 : yoe ≤ 399)
    (hmp : (if m > 2 then m - 3 else m + 9) = mp) (hdoy : (153 * mp + 2) / 5 + d - 1 = doy) :
    daysFromCivil (e * 400 + yoe + (if m ≤ 2 then 1 else 0)) m d
      = e * 146097 + (yoe * 365 + yoe / 4 - yoe / 100 + doy) - 719468 := by
  have hy : (if m ≤ 2 then e * 400 + yoe + (if m ≤ 2 then 1 else 0) - 1
      else e * 400 + yoe + (if m ≤ 2 then 1 else 0)) = yoe + e * 400 := by
    rw [Int.add_comm yoe]
    split
    · exact Int.add_sub_cancel _ 1
    · exact Int.add_zero _
  have hq : (yoe + e * 400) / 400 = e ∧ (yoe + e * 400) % 400 = yoe := by
    rw [Int.add_mul_ediv_right _ _ (by decide), Int.add_mul_emod_self_right,
      Int.ediv_eq_zero_of_lt h0 (by omega), Int.emod_eq_of_lt h0 (by omega), Int.zero_add]
    exact ⟨rfl, rfl⟩
  simp only [daysFromCivil, hy, hq, hmp, hdoy]

theorem daysIn_le (m y : Nat) : daysIn m y ≤ 31 := by
  unfold daysIn
  split
  · split <;> decide
  · split <;> decide

theorem isLeap_toNat (y : Int) (hy : 0 ≤ y) (h : y % 4 = 0 ∧ (y % 100 ≠ 0 ∨ y % 400 = 0)) :
    isLeap y.toNat = true := by
  obtain ⟨n, rfl⟩ := Int.eq_ofNat_of_zero_le hy
  have l1 : n % 4 = 0 := by exact_mod_cast h.1
  have l2 : n % 100 ≠ 0 ∨ n % 400 = 0 := by omega
  show isLeap n = true
  rcases l2 with l2 | l2 <;> simp [isLeap, l1, l2]

theorem toNat_le_daysIn (y m d : Int) (hy : 0 ≤ y) (hm : 0 ≤ m) (hd : d ≤ 31)
    (h30 : (m = 4 ∨ m = 6 ∨ m = 9 ∨ m = 11) → d ≤ 30)
    (h2 : m = 2 → d ≤ 29 ∧ (d = 29 → y % 4 = 0 ∧ (y % 100 ≠ 0 ∨ y % 400 = 0))) :
    d.toNat ≤ daysIn m.toNat y.toNat := by
  obtain ⟨k, rfl⟩ := Int.eq_ofNat_of_zero_le hm
  rw [Int.toNat_natCast, daysIn]
  split
  · obtain ⟨h29, hl⟩ := h2 (by omega)
    split
    · omega
    · next hnl =>
      have : d ≠ 29 := fun h => hnl (isLeap_toNat y hy (hl h))
      omega
  · split
    · next hk =>
      have := h30 (by exact_mod_cast hk)
      omega
    · omega

/-- the bound on the day of the month is the one `parseChars` checks (`daysIn`, which counts in `Nat`: hence from year 0 on) -/
theorem civil_spec (days : Int) :
    daysFromCivil (civil days).1 (civil days).2.1 (civil days).2.2 = days ∧
    1 ≤ (civil days).2.1 ∧ (civil days).2.1 ≤ 12 ∧ 1 ≤ (civil days).2.2 ∧
    (0 ≤ (civil days).1 → (civil days).2.2.toNat ≤ daysIn (civil days).2.1.toNat (civil days).1.toNat) := by
  obtain ⟨hyoe_0, hyoe_399, hdoy_0, hdoy_le, hsum, hleap⟩ :=
    era_split ((days + 719468) % 146097) (Int.emod_nonneg _ (by decide)) (Int.emod_lt_of_pos _ (by decide))
  obtain ⟨hm_1, hm_12, hd_1, hd_31, h30, hfeb, hdoy, hmp⟩ := month_split _ _ _ _ hdoy_0 hdoy_le rfl rfl rfl
  -- the components of `civil days`, written out once: otherwise every field below is unified through `civil`
  simp only [civil]
  refine ⟨?_, hm_1, hm_12, hd_1, fun hy => ?_⟩
  · refine (daysFromCivil_eq ((days + 719468) / 146097) _ _ _ _ _ hyoe_0 hyoe_399 hmp hdoy).trans ?_
    rw [hsum, Int.ediv_mul_add_emod, Int.add_sub_cancel]
  · refine toNat_le_daysIn _ _ _ hy (Int.le_trans (by decide) hm_1) hd_31 h30 fun h2 => ⟨(hfeb h2).1, fun h29 => ?_⟩
    -- the 29th of February is day 365 of the March-based year, which makes its civil year a leap year
    have := hleap ((hfeb h2).2 h29) ((days + 719468) / 146097)
    -- `civil` writes the year as `… + if m ≤ 2 then 1 else 0`; here `m = 2`
    rwa [← if_pos (Int.le_of_eq h2) (t := (1 : Int)) (e := 0)] at this

theorem parseUint_digitsW (i n lo hi : Nat) (h : n < 10 ^ i) (hlo : lo ≤ n) (hhi : n ≤ hi) :
    parseUint (digitsW i n) lo hi = some n := by
  have hall : (digitsW i n).all Char.isDigit = true := List.all_eq_true.2 (digitsW_isDigit i n)
  have hr : ¬ (n < lo ∨ hi < n) := by omega
  simp only [parseUint, hall, if_true, digitsW_value, Nat.mod_eq_of_lt h, hr, if_false]

theorem fmt2_eq (n : Nat) (h : n < 100) : fmt2 n = digitsW 2 n := by
  simp only [digitsW, fmt2, List.nil_append, List.cons_append, Nat.mod_eq_of_lt (by omega : n / 10 < 10)]

theorem fmt4_eq (n : Nat) (h : n < 10000) : fmt4 n = digitsW 4 n := by
  simp only [digitsW, fmt4, List.nil_append, List.cons_append, Nat.div_div_eq_div_mul,
    Nat.mod_eq_of_lt (by omega : n / (10 * 10 * 10) < 10)]

theorem parseUint_fmt2 (n lo hi : Nat) (h : n < 100) (hlo : lo ≤ n) (hhi : n ≤ hi) :
    parseUint (fmt2 n) lo hi = some n := by
  rw [fmt2_eq n h]; exact parseUint_digitsW 2 n lo hi h hlo hhi

theorem parseFrac_fmtFrac (ns : Nat) (h : ns < 1000000000) :
    parseFrac ((fmtFrac ns 9).1 ++ ['Z']) = (ns, ['Z']) := by
  have h9 : ns % 10 ^ 9 = ns := Nat.mod_eq_of_lt h
  rcases fmtFrac_fst ns 9 with ⟨hz, e⟩ | ⟨_, ds, e, hd, hl, hne, hv⟩
  · rw [e, ← h9, hz]; rfl
  · obtain ⟨c, more, rfl⟩ := List.exists_cons_of_ne_nil hne
    rw [e, List.cons_append, List.cons_append, parseFrac, if_pos (hd c (by simp)), ← List.cons_append,
      List.takeWhile_append_of_pos hd, List.dropWhile_append_of_pos hd,
      show ['Z'].takeWhile Char.isDigit = [] from rfl, List.append_nil, nanosOf, List.take_of_length_le hl, hv, h9]
    rfl

theorem parseChars_fmt (Y M D h m s : Nat) (rest : List Char) (hY : Y ≤ 9999) (hM1 : 1 ≤ M) (hM : M ≤ 12)
    (hD1 : 1 ≤ D) (hD : D ≤ daysIn M Y) (hh : h ≤ 23) (hm : m ≤ 59) (hs : s ≤ 59) :
    parseChars (fmt4 Y ++ '-' :: fmt2 M ++ '-' :: fmt2 D ++ 'T' :: fmt2 h ++ ':' :: fmt2 m ++ ':' :: fmt2 s ++ rest)
      = match parseZone (parseFrac rest).2 with
        | none => none
        | some off => some ⟨daysFromCivil Y M D * 86400 + h * 3600 + m * 60 + s - off, (parseFrac rest).1⟩ := by
  have pY := parseUint_digitsW 4 Y 0 9999 (by omega) (by omega) hY
  rw [← fmt4_eq Y (by omega)] at pY
  have pM := parseUint_fmt2 M 1 12 (by omega) hM1 hM
  have pD := parseUint_fmt2 D 1 (daysIn M Y) (Nat.lt_of_le_of_lt (Nat.le_trans hD (daysIn_le M Y)) (by decide)) hD1 hD
  have ph := parseUint_fmt2 h 0 23 (by omega) (by omega) hh
  have pm := parseUint_fmt2 m 0 59 (by omega) (by omega) hm
  have ps := parseUint_fmt2 s 0 59 (by omega) (by omega) hs
  simp only [fmt2, fmt4] at pY pM pD ph pm ps
  simp only [fmt2, fmt4, List.cons_append, List.nil_append, parseChars, pY, pM, pD, ph, pm, ps, and_self, if_true]
  rfl

theorem clock_split (s : Int) :
    (s % 86400).toNat / 3600 ≤ 23 ∧ (s % 86400).toNat % 3600 / 60 ≤ 59 ∧ (s % 86400).toNat % 60 ≤ 59 ∧
    s / 86400 * 86400 + ((s % 86400).toNat / 3600 : Nat) * 3600 + ((s % 86400).toNat % 3600 / 60 : Nat) * 60 +
      ((s % 86400).toNat % 60 : Nat) = s := by
  -- the second of the day as one natural number: `omega` splits on every `toNat` it meets
  have hr : ((s % 86400).toNat : Int) = s % 86400 := Int.toNat_of_nonneg (Int.emod_nonneg _ (by decide))
  generalize (s % 86400).toNat = r at hr ⊢
  omega

theorem date_toNat (y m d : Int) (hy : 0 ≤ y ∧ y ≤ 9999) (hm : 1 ≤ m ∧ m ≤ 12) (hd : 1 ≤ d) :
    y.toNat ≤ 9999 ∧ 1 ≤ m.toNat ∧ m.toNat ≤ 12 ∧ 1 ≤ d.toNat ∧
      (y.toNat : Int) = y ∧ (m.toNat : Int) = m ∧ (d.toNat : Int) = d := by
  omega

/-- **RFC 3339 round trip**: for an instant whose UTC year is within 0..9999, the text written by
    `MarshalText` is read back by `UnmarshalJSON` as the same instant -/
theorem parse_format (t : Time) (hns : t.ns < 1000000000)
    (hy : 0 ≤ (civil (t.sec / 86400)).1 ∧ (civil (t.sec / 86400)).1 ≤ 9999) :
    ∃ cs, formatChars t = some cs ∧ parseChars cs = some t := by
  obtain ⟨c1, c2, c3, c4, c5⟩ := civil_spec (t.sec / 86400)
  obtain ⟨hh, hm, hs, hsec⟩ := clock_split t.sec
  obtain ⟨y1, m1, m2, d1, ey, em, ed⟩ := date_toNat _ _ _ hy ⟨c2, c3⟩ c4
  refine ⟨_, if_neg (fun h => h.elim (Int.not_lt.2 hy.1) (Int.not_lt.2 hy.2)), ?_⟩
  rw [List.append_assoc,
    parseChars_fmt _ _ _ _ _ _ _ y1 m1 m2 d1 (c5 hy.1) hh hm hs,
    parseFrac_fmtFrac t.ns hns]
  show some _ = some t
  rw [ey, em, ed, c1, Int.sub_zero, hsec]

end TimeText
