import Relay.Model.Relay
import Relay.Props.C09
import Relay.Props.HubInv

/-!
# What one atomic relay operation can do to the state

`Relay.step` runs a handler; every handler is a cascade of guards around at most one state change.
An invariant over `Relay.run` is proved by one case per change (`run_induction`), without going
through the guards again.
-/

namespace Relay
open Access

section
variable {s : St} {k : String} {e : Int}

theorem mem_denyAct_members {c : Hub.Client} :
    c ∈ (denyAct s k e).hub.members ↔ c ∈ s.hub.members ∧ c.bid ≠ k := by
  simp only [denyAct, dropBooking, List.mem_filter, bne_iff_ne]

theorem mem_denyAct_entries {en : TtlCode.Entry} :
    en ∈ (denyAct s k e).codes.entries ↔ en ∈ s.codes.entries ∧ en.bid ≠ k := by
  simp only [denyAct, TtlCode.step, TtlCode.mem_keepIf, decide_eq_true_eq]

theorem sweep_entries_sub {en : TtlCode.Entry} (h : en ∈ (TtlCode.step s.codes .clean).1.entries) :
    en ∈ s.codes.entries :=
  ((TtlCode.mem_keepIf _ _ _).1 h).1

end

/-- The state changes `Relay.step` can make, each with what the guards in front of it have established.
    `spend` is a `ws` attempt refused after its code was exchanged; `hub` is `send`, `drain`, `close` (members are
    added by `join` only); `same` is every refusal before a state change. -/
inductive Eff (cfg : Config) (s : St) : St → Prop
  | same : Eff cfg s s
  | tick (t : Int) : Eff cfg s { s with now := t, reg := { s.reg with now := t }, codes := { s.codes with now := t } }
  | grant (b : Bearer) (id : String) (h : FullyValid cfg s b id) : Eff cfg s (sessionGrant cfg s b id).1
  | deny (k : String) (e : Int) : Eff cfg s (denyAct s k e)
  | allow (k : String) (e : Int) : Eff cfg s (allowAct s k e)
  | spend (c : Nat) : Eff cfg s (afterExchange s c)
  | join (path : List Char) (c : Nat) (e : TtlCode.Entry) (pt : PTok) (ua remote : String)
      (hf : TtlCode.find s.codes.entries c = some e) (hexp : ¬ s.codes.now > e.exp)
      (hpt : s.ptoks[e.tok]? = some pt) (hA : Admissible cfg s path pt) : Eff cfg s (afterJoin cfg s c pt ua remote)
  | hub (ev : Hub.Ev) (h : ∀ t b r w cap, ev ≠ .register t b r w cap) : Eff cfg s { s with hub := Hub.step s.hub ev }
  | prune : Eff cfg s { s with reg := Deny.step s.reg .prune }
  | sweep : Eff cfg s { s with codes := (TtlCode.step s.codes .clean).1 }

theorem step_eff (cfg : Config) (s : St) (op : Op) : Eff cfg s (step cfg s op) := by
  have bids (act : St → String → Int → St) (c : Cred) (b e : Param) (h : ∀ k e, Eff cfg s (act s k e)) :
      Eff cfg s (bidsReq act cfg s c b e).1 := by
    rcases bidsReq_cases act cfg s c b e with ⟨_, k, e', _, heq⟩ | ⟨_, _, heq, _⟩
    · rw [heq]; exact h k e'
    · rw [heq]; exact .same
  cases op with
  | setNow t => exact .tick t
  | session c id =>
    show Eff cfg s (session cfg s c id).1
    rcases session_cases cfg s c id with ⟨b, _, _, hfv, heq⟩ | ⟨_, _, heq, _⟩
    · rw [heq]; exact .grant b id hfv
    · rw [heq]; exact .same
  | deny c b e => exact bids denyAct c b e .deny
  | allow c b e => exact bids allowAct c b e .allow
  | ws p c ua r =>
    show Eff cfg s (wsAdmit cfg s p c ua r).1
    rcases ws_cases cfg s p c ua r with ⟨c', e, pt, _, hf, hexp, hpt, hA, heq⟩ | ⟨_, _, heq, _, hs⟩
    · rw [heq]; exact .join p c' e pt ua r hf hexp hpt hA
    · rw [heq]
      rcases hs with rfl | ⟨c', rfl⟩
      · exact .same
      · exact .spend c'
  | send n d mt | drain n k | close n => exact .hub _ (fun _ _ _ _ _ h => nomatch h)
  | prune => exact .prune
  | sweep => exact .sweep

theorem run_induction {P : St → Prop} (cfg : Config) (h0 : P {}) (hs : ∀ s s', P s → Eff cfg s s' → P s')
    (ops : List Op) : P (run cfg ops) :=
  List.foldlRecOn ops (step cfg) h0 fun s h op _ => hs s _ h (step_eff cfg s op)

end Relay
