import Relay.Base.Duration

/-!
# `ParseDuration` reads back what `Duration.String` wrote

Format side: `fmtFrac_fst` says what `fmtFrac` prints. Parser side: `Terms L s` — the loop reads the text `L` as `s`
nanoseconds from any accumulator and on any sufficient fuel, and `L` may follow a unit name — is built term by term
(`Terms.int`, `Terms.last`, `Terms.lastInt`) and holds of `formatNat u` (`formatNat_terms`). The numeric hypotheses are the
parser's overflow guards; below `2^63` none of them fires.
-/

namespace Dur

/-- the `i` low decimal digits of `v`, most significant first, zero padded -/
def digitsW : Nat → Nat → List Char
  | 0, _ => []
  | i + 1, v => digitsW i (v / 10) ++ [Nat.digitChar (v % 10)]

theorem digitsW_length (i v : Nat) : (digitsW i v).length = i := by
  induction i generalizing v with
  | zero => rfl
  | succ i ih => simp [digitsW, ih]

theorem digitsW_isDigit (i v : Nat) : ∀ c ∈ digitsW i v, c.isDigit = true := by
  induction i generalizing v with
  | zero => intro c hc; cases hc
  | succ i ih =>
    rw [digitsW, List.forall_mem_append]
    exact ⟨ih _, by simp [Nat.mod_lt]⟩

theorem digitsW_value (i v : Nat) : Nat.ofDigitChars 10 (digitsW i v) 0 = v % 10 ^ i := by
  induction i generalizing v with
  | zero => simp [digitsW, Nat.mod_one]
  | succ i ih =>
    have h10 : v % 10 < 10 := Nat.mod_lt _ (by decide)
    rw [digitsW, Nat.ofDigitChars_append, ih, Nat.ofDigitChars_cons_digitChar_of_lt_ten h10,
      Nat.ofDigitChars_nil, Nat.pow_succ, Nat.mul_comm (10 ^ i) 10, Nat.mod_mul]
    omega

theorem fmtFracLoop_snd (i v : Nat) (p : Bool) (acc : List Char) :
    (fmtFracLoop i v p acc).2 = v / 10 ^ i := by
  induction i generalizing v p acc with
  | zero => simp [fmtFracLoop]
  | succ i ih =>
    simp only [fmtFracLoop, ih, Nat.pow_succ, Nat.div_div_eq_div_mul, Nat.mul_comm]

theorem fmtFrac_snd (v prec : Nat) : (fmtFrac v prec).2 = v / 10 ^ prec := fmtFracLoop_snd ..

theorem fmtFracLoop_true (i v : Nat) (acc : List Char) :
    (fmtFracLoop i v true acc).1 = '.' :: (digitsW i v ++ acc) := by
  induction i generalizing v acc with
  | zero => simp [fmtFracLoop, digitsW]
  | succ i ih =>
    simp only [fmtFracLoop, Bool.true_or, if_true, ih, digitsW, List.append_assoc, List.singleton_append]

/-- trailing zeros are not printed: `k ≤ i` digits, whose value scaled by `10^(i-k)` is the fraction -/
theorem fmtFrac_fst (v i : Nat) :
    (v % 10 ^ i = 0 ∧ (fmtFrac v i).1 = []) ∨
    (v % 10 ^ i ≠ 0 ∧ ∃ ds : List Char, (fmtFrac v i).1 = '.' :: ds ∧
      (∀ c ∈ ds, c.isDigit = true) ∧ ds.length ≤ i ∧ ds ≠ [] ∧
      Nat.ofDigitChars 10 ds 0 * 10 ^ (i - ds.length) = v % 10 ^ i) := by
  unfold fmtFrac
  induction i generalizing v with
  | zero => left; simp [fmtFracLoop, Nat.mod_one]
  | succ i ih =>
    have hmod : v % 10 ^ (i + 1) = v % 10 + 10 * (v / 10 % 10 ^ i) := by
      rw [Nat.pow_succ, Nat.mul_comm (10 ^ i) 10, Nat.mod_mul]
    by_cases h0 : v % 10 = 0
    · -- digit 0: still not printing
      have hstep : fmtFracLoop (i + 1) v false [] = fmtFracLoop i (v / 10) false [] := by
        rw [fmtFracLoop]; simp only [h0, bne_self_eq_false, Bool.or_self, Bool.false_eq_true, if_false]
      rw [hstep, hmod, h0, Nat.zero_add]
      rcases ih (v / 10) with ⟨hz, ht⟩ | ⟨hnz, ds, ht, hd, hl, hne, hv⟩
      · left; exact ⟨by rw [hz], ht⟩
      · right
        refine ⟨Nat.mul_ne_zero (by decide) hnz, ds, ht, hd, Nat.le_succ_of_le hl, hne, ?_⟩
        rw [Nat.succ_sub hl, Nat.pow_succ, ← Nat.mul_assoc, hv, Nat.mul_comm]
    · right
      have hb : (v % 10 != 0) = true := by simp [h0]
      have hstep : fmtFracLoop (i + 1) v false [] = fmtFracLoop i (v / 10) true [Nat.digitChar (v % 10)] := by
        rw [fmtFracLoop]; simp only [hb, Bool.or_true, if_true]
      rw [hstep, fmtFracLoop_true]
      refine ⟨fun h => h0 (Nat.eq_zero_of_add_eq_zero_right (hmod ▸ h)), digitsW (i + 1) v, by simp [digitsW],
        digitsW_isDigit _ _, by simp [digitsW_length], ?_, ?_⟩
      · intro h; have := congrArg List.length h; simp [digitsW_length] at this
      · simp [digitsW_length, digitsW_value]

/-! ## parser side -/

theorem le_ofDigitChars (ds : List Char) (x : Nat) : x ≤ Nat.ofDigitChars 10 ds x := by
  induction ds generalizing x with
  | nil => exact Nat.le_refl _
  | cons c r ih =>
    rw [Nat.ofDigitChars_cons]
    exact Nat.le_trans (by omega) (ih _)

def NoDigitHead (r : List Char) : Prop := ∀ c, r.head? = some c → c.isDigit = false

/-- one more digit, while the value read stays below `2^63 / 10`: none of the overflow guards of
    `leadingInt` / `leadingFraction` fires, and the loops' `x * 10 + digit` is the step of `Nat.ofDigitChars` -/
theorem digit_step (c : Char) (ds : List Char) (x : Nat)
    (hb : Nat.ofDigitChars 10 (c :: ds) x ≤ 922337203685477580) :
    (¬ x > 2 ^ 63 / 10 ∧ ¬ x > (2 ^ 63 - 1) / 10 ∧ ¬ x * 10 + digitVal c > 2 ^ 63) ∧
      Nat.ofDigitChars 10 (c :: ds) x = Nat.ofDigitChars 10 ds (x * 10 + digitVal c) := by
  have e : 10 * x + (c.toNat - '0'.toNat) = x * 10 + digitVal c := by rw [digitVal, Nat.mul_comm]
  rw [Nat.ofDigitChars_cons, e] at hb ⊢
  have h1 := le_ofDigitChars ds (x * 10 + digitVal c)
  refine ⟨?_, rfl⟩
  show ¬ x > 922337203685477580 ∧ ¬ x > 922337203685477580 ∧ ¬ x * 10 + digitVal c > 9223372036854775808
  omega

theorem leadingInt_digits (ds : List Char) (hd : ∀ c ∈ ds, c.isDigit = true) (r : List Char)
    (hr : NoDigitHead r) (x : Nat) (hb : Nat.ofDigitChars 10 ds x ≤ 922337203685477580) :
    leadingInt (ds ++ r) x = some (Nat.ofDigitChars 10 ds x, r) := by
  induction ds generalizing x with
  | nil =>
    cases r with
    | nil => rfl
    | cons c cs => simp only [List.nil_append, leadingInt, hr c rfl, Bool.false_eq_true, if_false]; rfl
  | cons c ds ih =>
    obtain ⟨⟨h1, _, h2⟩, e⟩ := digit_step c ds x hb
    simp only [List.cons_append, leadingInt, hd c (by simp), if_true, h1, h2, if_false, e]
    exact ih (fun c hc => hd c (by simp [hc])) _ (e ▸ hb)

theorem leadingFraction_digits (ds : List Char) (hd : ∀ c ∈ ds, c.isDigit = true) (r : List Char)
    (hr : NoDigitHead r) (x k : Nat) (hb : Nat.ofDigitChars 10 ds x ≤ 922337203685477580) :
    leadingFraction (ds ++ r) x k false = (Nat.ofDigitChars 10 ds x, k + ds.length, r) := by
  induction ds generalizing x k with
  | nil =>
    cases r with
    | nil => rfl
    | cons c cs => simp only [List.nil_append, leadingFraction, hr c rfl, Bool.false_eq_true, if_false]; rfl
  | cons c ds ih =>
    obtain ⟨⟨_, h1, h2⟩, e⟩ := digit_step c ds x hb
    simp only [List.cons_append, leadingFraction, hd c (by simp), if_true, h1, h2, if_false, e, Bool.false_eq_true]
    rw [ih (fun c hc => hd c (by simp [hc])) _ _ (e ▸ hb), List.length_cons, Nat.add_assoc, Nat.add_comm 1]

theorem toDigits_isDigit (n : Nat) : ∀ c ∈ Nat.toDigits 10 n, c.isDigit = true :=
  fun _ hc => Nat.isDigit_of_mem_toDigits (by decide) (by decide) hc

theorem toDigits_cons (n : Nat) : ∃ c cs, Nat.toDigits 10 n = c :: cs ∧ c.isDigit = true := by
  cases h : Nat.toDigits 10 n with
  | nil => exact absurd h Nat.toDigits_ne_nil
  | cons c cs => exact ⟨c, cs, rfl, toDigits_isDigit n c (by simp [h])⟩

/-- a unit name followed by the next term (or nothing) -/
structure UnitAt (u rest : List Char) (unit : Nat) : Prop where
  unit : unitOf u = some unit
  span : spanUnit (u ++ rest) = (u, rest)
  ne : u ≠ []
  head : ∀ c, (u ++ rest).head? = some c → isNumChar c = false

theorem noDigitHead_of_unit {u rest : List Char} {unit : Nat} (h : UnitAt u rest unit) :
    NoDigitHead (u ++ rest) := by
  intro c hc
  have := h.head c hc
  simp only [isNumChar, Bool.or_eq_false_iff] at this
  exact this.2

theorem parseTerm_fmtInt (n : Nat) (r1 : List Char) (hr : NoDigitHead r1) (hn : n ≤ 922337203685477580) :
    parseTerm (fmtInt n ++ r1) = finishTerm n (parseFracPart r1).1 (parseFracPart r1).2.1 true
      (parseFracPart r1).2.2.2 (parseFracPart r1).2.2.1 := by
  obtain ⟨c, cs, hcs, hc⟩ := toDigits_cons n
  have hli : leadingInt (fmtInt n ++ r1) 0 = some (n, r1) := by
    simpa [fmtInt] using leadingInt_digits (fmtInt n) (toDigits_isDigit n) r1 hr 0 (by simpa [fmtInt] using hn)
  have hlen : (r1.length != (c :: (cs ++ r1)).length) = true := by simp; omega
  simp only [fmtInt, hcs] at hli ⊢
  rw [List.cons_append] at hli
  have hnum : isNumChar c = true := by simp [isNumChar, hc]
  simp only [parseTerm, List.cons_append, hnum, Bool.not_true, Bool.false_eq_true, if_false, hli, hlen]

theorem finishTerm_unit {u rest : List Char} {unit : Nat} (hu : UnitAt u rest unit) (v f k : Nat) (post : Bool)
    (hv : v ≤ 2 ^ 63 / unit) (hs : v * unit + (if f > 0 then fracNs f unit k else 0) ≤ 2 ^ 63) :
    finishTerm v f k true post (u ++ rest) = some (v * unit + (if f > 0 then fracNs f unit k else 0), rest) := by
  simp only [finishTerm, Bool.not_true, Bool.false_and, Bool.false_eq_true, if_false, hu.span, hu.unit,
    List.isEmpty_eq_false_iff.2 hu.ne, Nat.not_lt.2 hv]
  by_cases hf : f > 0
  · rw [if_pos hf] at hs ⊢
    rw [if_pos hf, if_neg (Nat.not_lt.2 hs)]
  · rw [if_neg hf, if_neg hf, Nat.add_zero]

theorem parseFracPart_unit {u rest : List Char} {unit : Nat} (hu : UnitAt u rest unit) :
    parseFracPart (u ++ rest) = (0, 0, u ++ rest, false) := by
  unfold parseFracPart
  split
  · next r heq => exact absurd (hu.head '.' (by rw [heq]; rfl)) (by decide)
  · rfl

theorem parseTerm_int (n : Nat) (u rest : List Char) (unit : Nat) (hu : UnitAt u rest unit)
    (hn : n ≤ 922337203685477580) (hnu : n ≤ 2 ^ 63 / unit) :
    parseTerm (fmtInt n ++ (u ++ rest)) = some (n * unit, rest) := by
  rw [parseTerm_fmtInt n _ (noDigitHead_of_unit hu) hn, parseFracPart_unit hu]
  exact finishTerm_unit hu n 0 0 false hnu (Nat.mul_le_of_le_div _ _ _ hnu)

theorem parseFracPart_digits {u rest : List Char} {unit : Nat} (hu : UnitAt u rest unit) (ds : List Char)
    (hd : ∀ c ∈ ds, c.isDigit = true) (hne : ds ≠ []) (hfb : Nat.ofDigitChars 10 ds 0 ≤ 922337203685477580) :
    parseFracPart ('.' :: (ds ++ (u ++ rest))) = (Nat.ofDigitChars 10 ds 0, ds.length, u ++ rest, true) := by
  have hlf := leadingFraction_digits ds hd (u ++ rest) (noDigitHead_of_unit hu) 0 0 hfb
  have hpost : ((u ++ rest).length != (ds ++ (u ++ rest)).length) = true := by
    cases ds with
    | nil => exact absurd rfl hne
    | cons a as => simp; omega
  simp only [parseFracPart, hlf, hpost, Nat.zero_add]

theorem fracNs_exact (f prec k : Nat) (hk : k ≤ prec) (hprod : f * 10 ^ (prec - k) < 1000000000) :
    fracNs f (10 ^ prec) k = f * 10 ^ (prec - k) := by
  have hsplit : 10 ^ prec = 10 ^ k * 10 ^ (prec - k) := by
    rw [← Nat.pow_add]; congr 1; omega
  have hpos : 0 < 10 ^ k := Nat.pow_pos (by decide)
  have hmod : 10 ^ prec % 10 ^ k = 0 := by rw [hsplit]; exact Nat.mul_mod_right _ _
  have hdiv : 10 ^ prec / 10 ^ k = 10 ^ (prec - k) := by rw [hsplit]; exact Nat.mul_div_cancel_left _ hpos
  have h1 : 1 ≤ 10 ^ (prec - k) := Nat.one_le_pow _ _ (by decide)
  have hf : f ≤ f * 10 ^ (prec - k) := Nat.le_mul_of_pos_right _ h1
  have h53 : (2 : Nat) ^ 53 = 9007199254740992 := by decide
  unfold fracNs
  rw [hmod, hdiv, h53]
  have c : 0 = 0 ∧ f < 9007199254740992 ∧ f * 10 ^ (prec - k) < 9007199254740992 := ⟨rfl, by omega, by omega⟩
  rw [if_pos c]

/-- `9223372036 = 2^63 / 10^9`: with `prec ≤ 9` the guard `v > 2^63 / unit` does not fire -/
theorem parseTerm_fmtFrac (n v prec : Nat) (u rest : List Char) (hu : UnitAt u rest (10 ^ prec))
    (hprec : prec ≤ 9) (hn : n ≤ 9223372036) (hs : n * 10 ^ prec + v % 10 ^ prec ≤ 9223372036854775808) :
    parseTerm (fmtInt n ++ ((fmtFrac v prec).1 ++ (u ++ rest))) = some (n * 10 ^ prec + v % 10 ^ prec, rest) := by
  have hp9 : 10 ^ prec ≤ 10 ^ 9 := Nat.pow_le_pow_right (by decide) hprec
  have hppos : 0 < 10 ^ prec := Nat.pow_pos (by decide)
  have hlt : v % 10 ^ prec < 10 ^ prec := Nat.mod_lt _ hppos
  have hnu : n ≤ 2 ^ 63 / 10 ^ prec := by
    rw [Nat.le_div_iff_mul_le hppos]
    exact Nat.le_trans (Nat.mul_le_mul hn hp9) (by decide)
  rcases fmtFrac_fst v prec with ⟨hz, e⟩ | ⟨hnz, ds, e, hd, hl, hne, hv⟩
  · rw [e, hz]
    exact parseTerm_int n u rest _ hu (by omega) hnu
  · have hfpos : 0 < Nat.ofDigitChars 10 ds 0 := Nat.pos_of_ne_zero fun h0 => hnz (by rw [← hv, h0, Nat.zero_mul])
    have hfle : Nat.ofDigitChars 10 ds 0 ≤ v % 10 ^ prec :=
      hv ▸ Nat.le_mul_of_pos_right _ (Nat.pow_pos (by decide))
    have hex := fracNs_exact (Nat.ofDigitChars 10 ds 0) prec ds.length hl (by rw [hv]; omega)
    have hnd : NoDigitHead ('.' :: (ds ++ (u ++ rest))) := by
      intro a ha
      cases ha
      rfl
    have hsum : n * 10 ^ prec +
        (if Nat.ofDigitChars 10 ds 0 > 0 then fracNs (Nat.ofDigitChars 10 ds 0) (10 ^ prec) ds.length else 0) ≤
          2 ^ 63 := by
      rw [if_pos hfpos, hex, hv]
      exact hs
    rw [e, List.cons_append, parseTerm_fmtInt n _ hnd (by omega), parseFracPart_digits hu ds hd hne (by omega),
      finishTerm_unit hu n _ ds.length true hnu hsum, if_pos hfpos, hex, hv]

/-- nothing, or the next term (which starts with a digit) -/
def Stop (rest : List Char) : Prop := rest = [] ∨ ∃ c cs, rest = c :: cs ∧ c.isDigit = true

theorem stop_nil : Stop [] := Or.inl rfl

theorem stop_fmtInt (n : Nat) (tl : List Char) : Stop (fmtInt n ++ tl) := by
  obtain ⟨c, cs, hcs, hc⟩ := toDigits_cons n
  exact Or.inr ⟨c, cs ++ tl, by simp [fmtInt, hcs], hc⟩

theorem spanUnit_stop {rest : List Char} (h : Stop rest) : spanUnit rest = ([], rest) := by
  rcases h with rfl | ⟨c, cs, rfl, hc⟩
  · rfl
  · simp [spanUnit, isNumChar, hc]

theorem head_stop {rest : List Char} (h : Stop rest) : ∀ c, rest.head? = some c → c.isDigit = true := by
  rcases h with rfl | ⟨c, cs, rfl, hc⟩
  · intro c h; cases h
  · rintro a ⟨⟩; exact hc

theorem unitOf_noNum {u : List Char} {unit : Nat} (h : unitOf u = some unit) : ∀ c ∈ u, isNumChar c = false := by
  unfold unitOf at h
  split at h
  case h_9 => cases h
  all_goals decide

theorem unitAt_of {u rest : List Char} {unit : Nat} (hu : unitOf u = some unit) (h : Stop rest) :
    UnitAt u rest unit := by
  have hnum := unitOf_noNum hu
  have hne : u ≠ [] := by rintro rfl; cases hu
  refine ⟨hu, ?_, hne, ?_⟩
  · clear hu hne
    induction u with
    | nil => exact spanUnit_stop h
    | cons c cs ih =>
      simp [spanUnit, hnum c (by simp), ih (fun a ha => hnum a (by simp [ha]))]
  · obtain ⟨c, cs, rfl⟩ := List.exists_cons_of_ne_nil hne
    rintro a ⟨⟩
    exact hnum c (by simp)

theorem parseTerms_step (fuel : Nat) (cs : List Char) (d v : Nat) (rest : List Char) (hne : cs ≠ [])
    (hp : parseTerm cs = some (v, rest)) (hd : d + v ≤ 9223372036854775808) :
    parseTerms (fuel + 1) cs d = parseTerms fuel rest (d + v) := by
  cases cs with
  | nil => exact absurd rfl hne
  | cons c cs =>
    have h64 : (2 : Nat) ^ 64 = 18446744073709551616 := by decide
    have h63 : (2 : Nat) ^ 63 = 9223372036854775808 := by decide
    have hm : (d + v) % 2 ^ 64 = d + v := Nat.mod_eq_of_lt (by omega)
    have hle : ¬ d + v > 2 ^ 63 := by omega
    simp only [parseTerms, hp, hm, hle, if_false]

theorem fmtInt_ne_nil (n : Nat) : fmtInt n ≠ [] := Nat.toDigits_ne_nil

theorem parseTerms_nil (fuel d : Nat) : parseTerms fuel [] d = some d := by
  cases fuel <;> rfl

/-- the loop reads `L` as `s` nanoseconds, from any accumulator that leaves room for them, on any fuel
    that covers the text (`parseChars` gives its length) -/
def Reads (L : List Char) (s : Nat) : Prop :=
  ∀ fuel d, L.length ≤ fuel → d + s ≤ 9223372036854775808 → parseTerms fuel L d = some (d + s)

theorem Reads.cons {T rest : List Char} {v s : Nat} (hne : T ≠ [])
    (hp : parseTerm (T ++ rest) = some (v, rest)) (hr : Reads rest s) : Reads (T ++ rest) (v + s) := by
  intro fuel d hf hd
  obtain ⟨a, as, rfl⟩ := List.exists_cons_of_ne_nil hne
  rw [List.cons_append, List.length_cons, List.length_append] at hf
  obtain ⟨f, rfl⟩ : ∃ f, fuel = f + 1 := ⟨fuel - 1, by omega⟩
  rw [parseTerms_step _ _ d v rest (by simp) hp (by omega), ← Nat.add_assoc]
  exact hr f _ (by omega) (by omega)

theorem Reads.one {L : List Char} {v : Nat} (hne : L ≠ []) (hp : parseTerm L = some (v, [])) : Reads L v := by
  have := Reads.cons hne (by rwa [List.append_nil]) (fun fuel d _ _ => parseTerms_nil fuel d : Reads [] 0)
  rwa [List.append_nil] at this

/-- a sequence of terms worth `s` nanoseconds as `formatNat` writes them: the loop reads it, and it may
    follow a unit name -/
structure Terms (L : List Char) (s : Nat) : Prop where
  reads : Reads L s
  stop : Stop L

theorem Terms.value {L : List Char} {s s' : Nat} (h : Terms L s) (e : s = s') : Terms L s' := e ▸ h

theorem Terms.lastInt (n : Nat) {u : List Char} {unit : Nat} (hu : unitOf u = some unit)
    (hn : n ≤ 922337203685477580) (hnu : n ≤ 2 ^ 63 / unit) :
    Terms (fmtInt n ++ u) (n * unit) := by
  have hp := parseTerm_int n u [] unit (unitAt_of hu stop_nil) hn hnu
  rw [List.append_nil] at hp
  exact ⟨Reads.one (by simp [fmtInt_ne_nil]) hp, stop_fmtInt n u⟩

theorem Terms.last (n v prec : Nat) {u : List Char} (hu : unitOf u = some (10 ^ prec))
    (hprec : prec ≤ 9) (hn : n ≤ 9223372036)
    (hs : n * 10 ^ prec + v % 10 ^ prec ≤ 9223372036854775808) :
    Terms (fmtInt n ++ (fmtFrac v prec).1 ++ u) (n * 10 ^ prec + v % 10 ^ prec) := by
  have hp := parseTerm_fmtFrac n v prec u [] (unitAt_of hu stop_nil) hprec hn hs
  rw [List.append_nil, ← List.append_assoc] at hp
  exact ⟨Reads.one (by simp [fmtInt_ne_nil]) hp, List.append_assoc .. ▸ stop_fmtInt n _⟩

theorem Terms.int (n : Nat) {u rest : List Char} {unit s : Nat} (hu : unitOf u = some unit)
    (hn : n ≤ 922337203685477580) (hnu : n ≤ 2 ^ 63 / unit) (hr : Terms rest s) :
    Terms (fmtInt n ++ u ++ rest) (n * unit + s) := by
  have hp := parseTerm_int n u rest unit (unitAt_of hu hr.stop) hn hnu
  rw [← List.append_assoc] at hp
  exact ⟨Reads.cons (by simp [fmtInt_ne_nil]) hp hr.reads, List.append_assoc .. ▸ stop_fmtInt n _⟩

/-- `9223372036 = 2^63 / 10^9` whole seconds at most; `2562047 = 2^63 / 3600000000000`, so the hours count passes the guard
    `v > 2^63 / unit` -/
theorem hms_sum (w f : Nat) (hw : w ≤ 9223372036) :
    w / 60 / 60 * 3600000000000 + (w / 60 % 60 * 60000000000 + (w % 60 * 1000000000 + f)) = w * 1000000000 + f ∧
      w / 60 / 60 ≤ 2562047 ∧ w / 60 % 60 ≤ 59 ∧ w % 60 ≤ 59 := by
  omega

/-- from a second on, a term that `formatNat` leaves out (hours, minutes) is 0, so `hms_sum` still gives the value -/
theorem formatNat_terms (u : Nat) (hu : u ≤ 9223372036854775808) : Terms (formatNat u) u := by
  unfold formatNat
  by_cases h9 : u < 1000000000
  · rw [if_pos h9]
    by_cases h0 : u = 0
    · rw [if_pos h0, h0]
      exact Terms.lastInt 0 (u := ['s']) rfl (by decide) (by decide)
    rw [if_neg h0]
    by_cases h1 : u < 1000
    · rw [if_pos h1]
      exact (Terms.lastInt u (u := ['n', 's']) rfl (by omega) (by
        rw [Nat.div_one]; exact Nat.le_trans hu (by decide))).value (Nat.mul_one u)
    rw [if_neg h1]
    by_cases h2 : u < 1000000
    · rw [if_pos h2, fmtFrac_snd]
      exact (Terms.last (u / 10 ^ 3) u 3 rfl (by decide) (by omega)
        (by rw [Nat.div_add_mod']; exact hu)).value (Nat.div_add_mod' ..)
    · rw [if_neg h2, fmtFrac_snd]
      exact (Terms.last (u / 10 ^ 6) u 6 rfl (by decide) (by omega)
        (by rw [Nat.div_add_mod']; exact hu)).value (Nat.div_add_mod' ..)
  · rw [if_neg h9]
    have e9 : (10 : Nat) ^ 9 = 1000000000 := by decide
    obtain ⟨hsum, hH, hM, hS⟩ := hms_sum (u / 1000000000) (u % 1000000000) (by omega)
    rw [Nat.div_add_mod' u 1000000000] at hsum
    have hsec := Terms.last (u / 10 ^ 9 % 60) u 9 (u := ['s']) rfl (by decide)
      (e9 ▸ Nat.le_trans hS (by decide)) (by rw [e9]; omega)
    simp only [fmtFrac_snd]
    rw [e9] at hsec ⊢
    generalize u / 1000000000 = w at *
    by_cases hm : w / 60 > 0
    · have hmin := Terms.int (w / 60 % 60) (u := ['m']) rfl (Nat.le_trans hM (by decide))
        (Nat.le_trans hM (by decide)) hsec
      rw [if_pos hm]
      by_cases hh : w / 60 / 60 > 0
      · rw [if_pos hh]
        exact (Terms.int (w / 60 / 60) (u := ['h']) rfl (Nat.le_trans hH (by decide))
          (Nat.le_trans hH (by decide)) hmin).value hsum
      · rw [if_neg hh]
        rw [Nat.eq_zero_of_not_pos hh, Nat.zero_mul, Nat.zero_add] at hsum
        exact hmin.value hsum
    · rw [if_neg hm]
      simp only [Nat.eq_zero_of_not_pos hm, Nat.zero_div, Nat.zero_mod, Nat.zero_mul, Nat.zero_add] at hsum
      exact hsec.value hsum

/-- starts with a digit and goes on: neither `"0"` nor signed nor empty -/
def Shape (L : List Char) : Prop := ∃ c cs, L = c :: cs ∧ c.isDigit = true ∧ cs ≠ []

theorem Shape.ite {c : Prop} [Decidable c] {a b : List Char} (ha : Shape a) (hb : Shape b) :
    Shape (if c then a else b) := by
  split <;> assumption

theorem shape_fmtInt (n : Nat) {tl : List Char} (h : tl ≠ []) : Shape (fmtInt n ++ tl) := by
  obtain ⟨c, cs, hcs, hc⟩ := toDigits_cons n
  exact ⟨c, cs ++ tl, by rw [fmtInt, hcs]; rfl, hc, fun e => h (List.append_eq_nil_iff.1 e).2⟩

theorem formatNat_shape (u : Nat) : Shape (formatNat u) := by
  unfold formatNat
  simp only [List.append_assoc]
  exact Shape.ite
    (.ite ⟨'0', ['s'], rfl, rfl, List.cons_ne_nil _ _⟩ (.ite (shape_fmtInt _ (by simp))
      (.ite (shape_fmtInt _ (by simp)) (shape_fmtInt _ (by simp)))))
    (.ite (.ite (shape_fmtInt _ (by simp)) (shape_fmtInt _ (by simp))) (shape_fmtInt _ (by simp)))

theorem parseChars_durationChars (d : Int) (hlo : -9223372036854775808 ≤ d) (hhi : d < 9223372036854775808) :
    parseChars (durationChars d) = some d := by
  obtain ⟨c, cs, hcs, hc, hne⟩ := formatNat_shape d.natAbs
  have hpt := ((formatNat_terms d.natAbs (by omega)).reads _ 0 (Nat.le_refl _) (by omega)).trans (by rw [Nat.zero_add])
  have hbody0 : formatNat d.natAbs ≠ ['0'] := by
    rw [hcs]; intro h; injection h with _ h2; exact hne h2
  have hbodyne : formatNat d.natAbs ≠ [] := by rw [hcs]; simp
  have h63 : (2 : Nat) ^ 63 - 1 = 9223372036854775807 := by decide
  have hsd : stripSign (formatNat d.natAbs) = (false, formatNat d.natAbs) := by
    rw [hcs]
    unfold stripSign
    split
    · rename_i heq; injection heq with h1 _; subst h1; exact absurd hc (by decide)
    · rename_i heq; injection heq with h1 _; subst h1; exact absurd hc (by decide)
    · rfl
  unfold parseChars durationChars
  by_cases hneg : d < 0
  · rw [if_pos hneg]
    have hs : stripSign ('-' :: formatNat d.natAbs) = (true, formatNat d.natAbs) := rfl
    simp only [hs, hbody0, hbodyne, if_false, hpt, if_true]
    exact congrArg some (by omega)
  · rw [if_neg hneg]
    simp only [hsd, hbody0, hbodyne, if_false, hpt, Bool.false_eq_true, h63]
    have : ¬ d.natAbs > 9223372036854775807 := by omega
    simp only [this, if_false]
    exact congrArg some (by omega)

/-- `ParseDuration(d.String()) = d` for every int64 `d` (the property theorem
    `duration_roundtrip` in `Props/C14.lean` restates this) -/
theorem duration_roundtrip' (d : Int) (hlo : -2 ^ 63 ≤ d) (hhi : d < 2 ^ 63) :
    parseDuration (durationString d) = some d := by
  have h63 : (2 : Int) ^ 63 = 9223372036854775808 := by decide
  unfold parseDuration durationString
  rw [String.toList_ofList]
  exact parseChars_durationChars d (by omega) (by omega)

end Dur
