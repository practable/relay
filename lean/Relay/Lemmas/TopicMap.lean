import Relay.Base.GoLite

/-!
# Topic maps: `map[string]map[*Client]bool`, the membership table of both translated hubs

`internal/crossbar` and `internal/hub` keep the same table (`clients` / `Clients`: topic ↦ set of client objects) and
run the same three pieces of code on it: file a client under its topic (creating the inner map on first use), delete
it from its topic's inner map, and range over one topic's inner map handing a message to every other member whose
queue has room. Everything the code reads of the table is the inner map of a topic (`Go.Map.get`; the comma-ok test
on first use only creates what `get` returns for an absent topic anyway, the empty map), so the facts are stated about
that `View`; they hold for any client type `κ`, and each hub instantiates them.
-/

namespace TieHub

/-- no key occurs twice in a pointer-keyed map -/
def PNoDup {κ α : Type} [DecidableEq κ] : Go.PMap κ α → Prop
  | [] => True
  | (a, _) :: m => Go.PMap.lookup m a = none ∧ PNoDup m

theorem filter_map_nodup {β γ : Type} (f : β → γ) (p : β → Bool) (l : List β) (hl : (l.map f).Nodup) :
    ((l.filter p).map f).Nodup :=
  List.Nodup.sublist ((List.filter_sublist (l := l) (p := p)).map f) hl

section PMapFacts
variable {κ α : Type} [DecidableEq κ]

@[simp] theorem plookup_erase_self (m : Go.PMap κ α) (k : κ) : Go.PMap.lookup (Go.PMap.erase m k) k = none := by
  induction m with
  | nil => rfl
  | cons p m ih =>
    obtain ⟨a, v⟩ := p
    rw [Go.PMap.erase]
    by_cases h : a = k
    · rw [if_pos h, ih]
    · rw [if_neg h, Go.PMap.lookup, if_neg h, ih]

theorem plookup_erase_ne (m : Go.PMap κ α) {k k' : κ} (h : k ≠ k') :
    Go.PMap.lookup (Go.PMap.erase m k) k' = Go.PMap.lookup m k' := by
  induction m with
  | nil => rfl
  | cons p m ih =>
    obtain ⟨a, v⟩ := p
    rw [Go.PMap.erase]
    by_cases h1 : a = k
    · rw [if_pos h1, ih, Go.PMap.lookup, if_neg (h1 ▸ h)]
    · rw [if_neg h1, Go.PMap.lookup, Go.PMap.lookup, ih]

theorem phas_iff_mem (m : Go.PMap κ α) (k : κ) : Go.PMap.has m k = true ↔ ∃ v, (k, v) ∈ m := by
  induction m with
  | nil => simp [Go.PMap.has, Go.PMap.lookup]
  | cons q m ih =>
    obtain ⟨a, v⟩ := q
    simp only [Go.PMap.has, Go.PMap.lookup] at ih ⊢
    by_cases hak : a = k
    · subst hak; simp
    · simp [hak, Ne.symm hak, ih]

theorem perase_eq_filter (m : Go.PMap κ α) (k : κ) :
    Go.PMap.erase m k = m.filter (fun kv => !decide (kv.1 = k)) := by
  induction m with
  | nil => rfl
  | cons p m ih => obtain ⟨a, v⟩ := p; by_cases h : a = k <;> simp [Go.PMap.erase, h, ih]

theorem phas_delete (m : Go.PMap κ α) (k k' : κ) :
    Go.PMap.has (Go.PMap.delete m k) k' = (!decide (k = k') && Go.PMap.has m k') := by
  unfold Go.PMap.has Go.PMap.delete
  by_cases h : k = k'
  · subst h; rw [plookup_erase_self]; simp
  · rw [plookup_erase_ne m h]; simp [h]

theorem phas_set (m : Go.PMap κ α) (k k' : κ) (v : α) :
    Go.PMap.has (Go.PMap.set m k v) k' = (decide (k = k') || Go.PMap.has m k') := by
  unfold Go.PMap.has Go.PMap.set
  rw [Go.PMap.lookup]
  by_cases h : k = k'
  · simp [h]
  · rw [if_neg h, plookup_erase_ne m h]; simp [h]

theorem pdelete_of_not_has (m : Go.PMap κ α) (k : κ) (h : Go.PMap.has m k = false) : Go.PMap.delete m k = m := by
  rw [Go.PMap.delete, perase_eq_filter, List.filter_eq_self]
  rintro ⟨a, v⟩ hm
  have : ¬ a = k := fun e => by rw [(phas_iff_mem m k).2 ⟨v, e ▸ hm⟩] at h; cases h
  simp [this]

theorem pnodup_iff (m : Go.PMap κ α) : PNoDup m ↔ (m.map (·.1)).Nodup := by
  induction m with
  | nil => exact ⟨fun _ => List.nodup_nil, fun _ => trivial⟩
  | cons q m ih =>
    rw [PNoDup, List.map_cons, List.nodup_cons, ih, ← Option.not_isSome_iff_eq_none, ← Go.PMap.has, phas_iff_mem]
    simp only [List.mem_map, Prod.exists, exists_and_right, exists_eq_right]

theorem pnodup_keys (m : Go.PMap κ α) (h : PNoDup m) : (m.map (·.1)).Nodup := (pnodup_iff m).1 h

theorem pnodup_delete (m : Go.PMap κ α) (k : κ) (h : PNoDup m) : PNoDup (Go.PMap.delete m k) := by
  rw [pnodup_iff] at h ⊢
  rw [Go.PMap.delete, perase_eq_filter]
  exact filter_map_nodup _ _ _ h

theorem pnodup_set (m : Go.PMap κ α) (k : κ) (v : α) (h : PNoDup m) : PNoDup (Go.PMap.set m k v) :=
  ⟨plookup_erase_self m k, pnodup_delete m k h⟩

end PMapFacts

section MapFacts
variable {α : Type} [Inhabited α]

theorem get_set (m : Go.Map α) (k k' : String) (v : α) :
    Go.Map.get (Go.Map.set m k v) k' = if k = k' then v else Go.Map.get m k' := by
  by_cases h : k = k'
  · subst h; simp [Go.Map.get, Go.Map.set]
  · simp [Go.Map.get, Go.Map.set, h, KV.lookup_insert_ne m v h]

theorem get_of_not_has (m : Go.Map α) (k : String) (h : Go.Map.has m k = false) : Go.Map.get m k = default := by
  simp only [Go.Map.has, KV.has, Option.isSome_eq_false_iff, Option.isNone_iff_eq_none] at h
  simp [Go.Map.get, h]

theorem get_setIfPresent (m : Go.Map α) (k k' : String) (v : α) (h : Go.Map.has m k = true) :
    Go.Map.get (Go.Map.setIfPresent m k v) k' = if k = k' then v else Go.Map.get m k' := by
  have h' : KV.has m k = true := h
  simp only [Go.Map.setIfPresent, h', if_true]
  exact get_set m k k' v

end MapFacts

end TieHub

namespace TopicMap
open TieHub
variable {κ : Type} [DecidableEq κ]

/-- all that the hubs' code reads of the table: the inner map of each topic (`Go.Map.get clients`) -/
abbrev View (κ : Type) := String → Go.PMap κ Bool

def filedIn (g : View κ) (t : String) (c : κ) : Prop := Go.PMap.has (g t) c = true

/-- `g[t][c] = true` -/
def file (g : View κ) (t : String) (c : κ) : View κ :=
  fun t' => if t = t' then Go.PMap.set (g t) c true else g t'

/-- `delete(g[t], c)` -/
def unfile (g : View κ) (t : String) (c : κ) : View κ :=
  fun t' => if t = t' then Go.PMap.delete (g t) c else g t'

theorem filedIn_file (g : View κ) (t : String) (c : κ) (t' : String) (c' : κ) :
    filedIn (file g t c) t' c' ↔ filedIn g t' c' ∨ (t' = t ∧ c' = c) := by
  unfold filedIn file
  by_cases ht : t = t'
  · subst ht
    simp only [if_true, phas_set, Bool.or_eq_true, decide_eq_true_eq, true_and]
    rw [or_comm, @eq_comm _ c c']
  · simp [ht, Ne.symm ht]

theorem filedIn_unfile (g : View κ) (t : String) (c : κ) (t' : String) (c' : κ) :
    filedIn (unfile g t c) t' c' ↔ filedIn g t' c' ∧ ¬ (t' = t ∧ c' = c) := by
  unfold filedIn unfile
  by_cases ht : t = t'
  · subst ht
    simp only [if_true, phas_delete, Bool.and_eq_true, Bool.not_eq_true', decide_eq_false_iff_not, true_and]
    rw [and_comm, @eq_comm _ c c']
  · simp [ht, Ne.symm ht]

theorem unfile_of_not_filed (g : View κ) (t : String) (c : κ) (h : ¬ filedIn g t c) : unfile g t c = g := by
  funext t'
  unfold unfile
  split
  · next e => subst e; exact pdelete_of_not_has _ _ (by simpa [filedIn] using h)
  · rfl

/-- the invariant both hubs maintain -/
structure Wf (topic : κ → String) (g : View κ) : Prop where
  inner : ∀ t, PNoDup (g t)
  own : ∀ t c, filedIn g t c → topic c = t

theorem Wf.file {topic : κ → String} {g : View κ} (h : Wf topic g) (c : κ) : Wf topic (file g (topic c) c) := by
  constructor
  · intro t
    unfold TopicMap.file
    split
    · exact pnodup_set _ _ _ (h.inner _)
    · exact h.inner t
  · intro t c' hf
    rcases (filedIn_file g _ c t c').1 hf with e | ⟨e1, e2⟩
    · exact h.own t c' e
    · rw [e1, e2]

theorem Wf.unfile {topic : κ → String} {g : View κ} (h : Wf topic g) (t : String) (c : κ) : Wf topic (unfile g t c) := by
  constructor
  · intro t'
    unfold TopicMap.unfile
    split
    · exact pnodup_delete _ _ (h.inner _)
    · exact h.inner t'
  · intro t' c' hf
    exact h.own t' c' ((filedIn_unfile g t c t' c').1 hf).1

/-! ## the table itself: what the two statements of the Go code do to the view -/

/-- `if _, ok := m[t]; !ok { m[t] = make(map[*Client]bool) }; m[t][c] = true` -/
def register (m : Go.Map (Go.PMap κ Bool)) (t : String) (c : κ) : Go.Map (Go.PMap κ Bool) :=
  let m' := if Go.Map.has m t then m else Go.Map.set m t Go.PMap.empty
  Go.Map.set m' t (Go.PMap.set (Go.Map.get m' t) c true)

/-- `delete(m[t], c)` -/
def unregister (m : Go.Map (Go.PMap κ Bool)) (t : String) (c : κ) : Go.Map (Go.PMap κ Bool) :=
  Go.Map.setIfPresent m t (Go.PMap.delete (Go.Map.get m t) c)

theorem get_register (m : Go.Map (Go.PMap κ Bool)) (t : String) (c : κ) :
    Go.Map.get (register m t c) = file (Go.Map.get m) t c := by
  funext t'
  unfold register file
  cases hok : Go.Map.has m t with
  | true => simp [get_set]
  | false =>
    have hd : Go.Map.get m t = [] := get_of_not_has m t hok
    by_cases ht : t = t'
    · subst ht; simp [get_set, hd, Go.PMap.empty]
    · simp [get_set, ht]

theorem get_unregister (m : Go.Map (Go.PMap κ Bool)) (t : String) (c : κ) :
    Go.Map.get (unregister m t c) = unfile (Go.Map.get m) t c := by
  funext t'
  unfold unregister unfile
  cases hok : Go.Map.has m t with
  | true => exact get_setIfPresent _ _ _ _ hok
  | false =>
    have hk : KV.has m t = false := hok
    have hd : Go.Map.get m t = [] := get_of_not_has m t hok
    by_cases ht : t = t'
    · subst ht; simp [Go.Map.setIfPresent, hk, hd, Go.PMap.delete, Go.PMap.erase]
    · simp [Go.Map.setIfPresent, hk, ht]

section Scan
variable {α β : Type}

omit [DecidableEq κ] in
theorem mem_filter_keys (l : List (κ × α)) (q : κ → Bool) (c : κ) :
    c ∈ (l.filter (fun kv => q kv.1)).map (·.1) ↔ (∃ v, (c, v) ∈ l) ∧ q c = true := by
  simp only [List.mem_map, List.mem_filter]
  constructor
  · rintro ⟨⟨c', v⟩, ⟨hm, hq⟩, rfl⟩
    exact ⟨⟨v, hm⟩, hq⟩
  · rintro ⟨⟨v, hm⟩, hq⟩
    exact ⟨(c, v), ⟨hm, hq⟩, rfl⟩

omit [DecidableEq κ] in
theorem picked_disjoint (l : List (κ × α)) (p r : κ → Bool) (c : κ)
    (h1 : c ∈ (l.filter (fun kv => p kv.1 && r kv.1)).map (·.1))
    (h2 : c ∈ (l.filter (fun kv => p kv.1 && !r kv.1)).map (·.1)) : False := by
  have a := ((mem_filter_keys l (fun c => p c && r c) c).1 h1).2
  have b := ((mem_filter_keys l (fun c => p c && !r c) c).1 h2).2
  simp only [Bool.and_eq_true, Bool.not_eq_true'] at a b
  rw [a.2] at b; cases b.2

theorem mem_picked (w : Go.World) (hw : w.OrdPOk) (m : Go.PMap κ α) (q : κ → Bool) (c : κ) :
    c ∈ ((w.ordP m).filter (fun kv => q kv.1)).map (·.1) ↔ Go.PMap.has m c = true ∧ q c = true := by
  rw [mem_filter_keys, phas_iff_mem]
  exact and_congr_left' (exists_congr fun v => (hw _ _ m).mem_iff)

theorem picked_nodup (w : Go.World) (hw : w.OrdPOk) (m : Go.PMap κ α) (hm : PNoDup m) (q : κ → Bool) :
    (((w.ordP m).filter (fun kv => q kv.1)).map (·.1)).Nodup :=
  filter_map_nodup _ _ _ (((hw _ _ m).map (·.1)).nodup_iff.2 (pnodup_keys m hm))

omit [DecidableEq κ] in
/-- the fan-out loop of `internal/crossbar`: a target (`p`) is handed `f k` if its queue has room (`r`), noted as
    slow otherwise -/
theorem fanout (l : List (κ × α)) (p r : κ → Bool) (f : κ → β) (s : List κ) (o : List β) :
    Go.forRangeP l (s, o)
        (fun acc k _ => if p k then (if r k then (acc.1, acc.2 ++ [f k]) else (acc.1 ++ [k], acc.2)) else acc)
      = (s ++ (l.filter (fun kv => p kv.1 && !r kv.1)).map (·.1),
         o ++ ((l.filter (fun kv => p kv.1 && r kv.1)).map (·.1)).map f) := by
  unfold Go.forRangeP
  induction l generalizing s o with
  | nil => simp
  | cons x l ih =>
    simp only [List.foldl_cons, List.filter_cons]
    by_cases hp : p x.1 = true <;> by_cases hr : r x.1 = true <;> simp [hp, hr, ih]

omit [DecidableEq κ] in
/-- the fan-out loop of `internal/hub`, which keeps no note of the members without room -/
theorem fanout_out (l : List (κ × α)) (p r : κ → Bool) (f : κ → β) (o : List β) :
    Go.forRangeP l o (fun acc k _ => if p k then (if r k then acc ++ [f k] else acc) else acc)
      = o ++ ((l.filter (fun kv => p kv.1 && r kv.1)).map (·.1)).map f := by
  -- step by step this loop is the second component of `fanout`'s
  refine Eq.trans ?_ (congrArg Prod.snd (fanout l p r f [] o))
  unfold Go.forRangeP
  refine List.foldl_hom Prod.snd (init := ([], o)) ?_
  intro acc kv
  by_cases hp : p kv.1 = true <;> by_cases hr : r kv.1 = true <;> simp [hp, hr]

end Scan

end TopicMap
