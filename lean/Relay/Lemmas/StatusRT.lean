import Relay.Lemmas.StatusKeys
import Relay.Lemmas.DurationRT

/-! # Lemmas for the report round trip: the `last` text survives `TrimSpace(ToLower(·))` -/

namespace Status
open Dur

theorem isDigit_toNat {c : Char} (h : c.isDigit = true) : 48 ≤ c.toNat ∧ c.toNat ≤ 57 := by
  simp only [Char.isDigit, Bool.and_eq_true, decide_eq_true_eq] at h
  exact ⟨UInt32.le_iff_toNat_le.mp h.1, UInt32.le_iff_toNat_le.mp h.2⟩

theorem toLower_of_toNat {c : Char} (h : c.toNat < 65 ∨ 90 < c.toNat) : c.toLower = c := by
  unfold Char.toLower
  split
  · rename_i h2
    have a := UInt32.le_iff_toNat_le.mp h2.1
    have b := UInt32.le_iff_toNat_le.mp h2.2
    simp at a b
    omega
  · rfl

/-- the alphabet of `Duration.String` -/
def OkChar (c : Char) : Prop :=
  c.isDigit = true ∨ c = '.' ∨ c = '-' ∨ c = 'h' ∨ c = 'm' ∨ c = 's' ∨ c = 'n' ∨ c = 'µ'

/-- the client's normalisation leaves such a character alone, and it is not the `e` of `"never"` -/
theorem okChar_plain {c : Char} (h : OkChar c) : c.toLower = c ∧ isGoSpace c = false ∧ c ≠ 'e' := by
  rcases h with h | h | h | h | h | h | h | h
  · have := isDigit_toNat h
    refine ⟨?_, ?_, ?_⟩
    · exact toLower_of_toNat (by omega)
    · simp only [isGoSpace, Bool.or_eq_false_iff, Bool.and_eq_false_iff, beq_eq_false_iff_ne, ne_eq,
        decide_eq_false_iff_not]
      omega
    · intro e
      subst e
      exact absurd h (by decide)
  all_goals (subst h; decide)

theorem okChar_lower {c : Char} (h : OkChar c) : c.toLower = c := (okChar_plain h).1

theorem okChar_notSpace {c : Char} (h : OkChar c) : isGoSpace c = false := (okChar_plain h).2.1

theorem okChar_ne_e {c : Char} (h : OkChar c) : c ≠ 'e' := (okChar_plain h).2.2

theorem fmtFrac_ok (v p : Nat) : ∀ c ∈ (fmtFrac v p).1, OkChar c := by
  rcases fmtFrac_fst v p with ⟨_, e⟩ | ⟨_, ds, e, hd, _, _, _⟩
  · rw [e]; intro c hc; cases hc
  · rw [e]; exact List.forall_mem_cons.2 ⟨.inr (.inl rfl), fun c hc => .inl (hd c hc)⟩

theorem fmtInt_ok (n : Nat) : ∀ c ∈ fmtInt n, OkChar c :=
  fun c hc => Or.inl (toDigits_isDigit n c hc)

theorem formatNat_ok (u : Nat) : ∀ c ∈ formatNat u, OkChar c := by
  have forall_mem_ite {p : Prop} [Decidable p] {a b : List Char} :
      (∀ c ∈ (if p then a else b), OkChar c) ↔ if p then ∀ c ∈ a, OkChar c else ∀ c ∈ b, OkChar c := by
    split <;> rfl
  have lit : OkChar '0' ∧ OkChar 'h' ∧ OkChar 'm' ∧ OkChar 's' ∧ OkChar 'n' ∧ OkChar 'µ' := by simp [OkChar]
  have hi : ∀ n, (∀ c ∈ fmtInt n, OkChar c) ↔ True := fun n => iff_true_intro (fmtInt_ok n)
  have hf : ∀ v p, (∀ c ∈ (fmtFrac v p).1, OkChar c) ↔ True := fun v p => iff_true_intro (fmtFrac_ok v p)
  simp only [formatNat, forall_mem_ite, List.forall_mem_append, List.forall_mem_cons, List.not_mem_nil, false_imp_iff,
    implies_true, lit, hi, hf, and_self, ite_self]

theorem durationChars_ok (d : Int) : ∀ c ∈ durationChars d, OkChar c := by
  unfold durationChars
  split
  · exact List.forall_mem_cons.2 ⟨.inr (.inr (.inl rfl)), formatNat_ok _⟩
  · exact formatNat_ok _

theorem dropWhile_none {p : Char → Bool} {l : List Char} (h : ∀ c ∈ l, p c = false) : l.dropWhile p = l := by
  cases l with
  | nil => rfl
  | cons a as => simp [List.dropWhile, h a (by simp)]

theorem map_lower_ok {l : List Char} (h : ∀ c ∈ l, OkChar c) : l.map Char.toLower = l :=
  (List.map_congr_left (g := id) fun c hc => okChar_lower (h c hc)).trans (List.map_id l)

theorem trim_ok {l : List Char} (h : ∀ c ∈ l, OkChar c) : trimSpaceChars l = l := by
  unfold trimSpaceChars
  rw [dropWhile_none (fun c hc => okChar_notSpace (h c hc)),
    dropWhile_none (fun c hc => okChar_notSpace (h c (by simpa using hc))), List.reverse_reverse]

theorem normLast_duration (d : Int) : normLast (durationString d) = durationString d := by
  unfold normLast durationString
  rw [String.toList_ofList, map_lower_ok (durationChars_ok d), trim_ok (durationChars_ok d)]

theorem durationString_ne_never (d : Int) : durationString d ≠ "never" := by
  intro h
  have h2 := congrArg String.toList h
  rw [durationString, String.toList_ofList] at h2
  have : 'e' ∈ durationChars d := by rw [h2]; decide
  exact okChar_ne_e (durationChars_ok d _ this) rfl

theorem durationString_ne_empty (d : Int) : durationString d ≠ "" := by
  intro h
  have h2 := congrArg String.toList h
  rw [durationString, String.toList_ofList] at h2
  unfold durationChars at h2
  obtain ⟨c, cs, hcs, _, _⟩ := formatNat_shape d.natAbs
  split at h2
  · simp at h2
  · rw [hcs] at h2; simp at h2

theorem normLast_Never : normLast "Never" = "never" := by decide +kernel

theorem parse_999h : parseDuration "999h" = some 3596400000000000 := by decide

/-! ## decoding what the encoders wrote -/

theorem foldlM_optStr {α : Type} (f : α → String × Json → Option α) (a : α) (k s : String) :
    (optStr k s).foldlM f a = if s = "" then some a else f a (k, .str s) := by
  unfold optStr
  split <;> simp [List.foldlM]

theorem foldlM_optBool {α : Type} (f : α → String × Json → Option α) (a : α) (k : String) (b : Bool) :
    (optBool k b).foldlM f a = if b then f a (k, .bool true) else some a := by
  unfold optBool
  split <;> simp [List.foldlM]

theorem foldlM_optF32 {α : Type} (f : α → String × Json → Option α) (a : α) (k : String) (bits : Nat) :
    (optF32 k bits).foldlM f a = if isZero32 bits then some a else f a (k, .num (.f32 bits)) := by
  unfold optF32
  split <;> simp [List.foldlM]

theorem decTmpS_encodeStats (s : ReportStats) :
    decTmpS (encodeStats s) = some { last := s.last, size := .d s.size, fps := .d s.fps } := by
  simp [decTmpS, encodeStats, List.foldlM, assignTmpS_names, decString, decFloat]

/-- a direction with traffic: the text of `time.Since(last)` comes back as the same duration; `size` and
    `fps` are whatever `decTmpS` made of the object (float64 on the `stats` topic, float32 in the REST body) -/
theorem decodeStatistics_seen (cur : Statistics) (j : Json) (d : Int) (size fps : Flt)
    (hj : decTmpS j = some { last := durationString d, size := size, fps := fps })
    (hlo : -2 ^ 63 ≤ d) (hhi : d < 2 ^ 63) :
    decodeStatistics cur j = some { last := d, size := size, fps := fps, never := false } := by
  unfold decodeStatistics
  rw [hj]
  simp only [normLast_duration, durationString_ne_never, durationString_ne_empty, or_self, if_false]
  rw [Dur.duration_roundtrip' d hlo hhi]
  simp

/-- a direction that never carried a message -/
theorem decodeStatistics_never (cur : Statistics) (j : Json) (size fps : Flt)
    (hj : decTmpS j = some { last := "Never", size := size, fps := fps }) :
    decodeStatistics cur j = some { last := neverLast, size := size, fps := fps, never := true } := by
  unfold decodeStatistics
  rw [hj]
  simp only [normLast_Never, true_or, if_true, parse_999h]
  simp [neverLast]

end Status
