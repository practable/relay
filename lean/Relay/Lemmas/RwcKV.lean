import Relay.Base.KV

/-! membership view of `KV` maps (helpers for C16 and for `Tie/ChanMap.lean`) -/

namespace KV
variable {α : Type}

theorem lookup_none_of_not_key (m : KV α) (k : String) (h : ∀ v, (k, v) ∉ m) : lookup m k = none := by
  cases hl : lookup m k with
  | none => rfl
  | some v => exact absurd (mem_of_lookup m k v hl) (h v)

theorem mem_iff_lookup (m : KV α) (k : String) (v : α) (nd : NoDupKeys m) :
    (k, v) ∈ m ↔ lookup m k = some v :=
  ⟨lookup_of_mem m k v nd, mem_of_lookup m k v⟩

theorem lookup_eq_none_iff_not_has (m : KV α) (k : String) : lookup m k = none ↔ has m k = false := by
  simp [has]

theorem mem_filter_vals (m : KV α) (nd : NoDupKeys m) (p : α → Bool) (c : α) :
    c ∈ (m.filter (fun q => p q.2)).map (·.2) ↔ (∃ id, lookup m id = some c) ∧ p c = true := by
  rw [List.mem_map]
  constructor
  · rintro ⟨⟨id, c'⟩, hm, rfl⟩
    rw [List.mem_filter] at hm
    exact ⟨⟨id, lookup_of_mem _ _ _ nd hm.1⟩, hm.2⟩
  · rintro ⟨⟨id, hl⟩, hw⟩
    exact ⟨(id, c), List.mem_filter.mpr ⟨mem_of_lookup _ _ _ hl, hw⟩, rfl⟩

end KV
