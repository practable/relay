/-!
# Critical sections under one mutex serialise (C12, and the justification of "every store method is one
atomic step" used by C02, C07, C10)

Threads are lists of accesses `σ → σ` bracketed by acquire/release of the single mutex; a schedule is any
list of thread ids (a step of a thread that is not enabled is a no-op). `serializes`: for every schedule
and any number of threads, whenever the lock is free the memory equals the SERIAL execution of the
completed critical sections in lock-acquisition order.
-/
namespace LockSerial
variable {σ : Type}

abbrev Body (σ : Type) := List (σ → σ)

def effect (fs : Body σ) (m : σ) : σ := fs.foldl (fun m f => f m) m

structure St (σ : Type) where
  mem : σ
  holder : Option Nat
  pc : Nat → Nat
  order : List Nat        -- ghost: acquisition order

def bodyOf (bodies : List (Body σ)) (t : Nat) : Body σ := (bodies[t]?).getD []

def upd (f : Nat → Nat) (t v : Nat) : Nat → Nat := fun i => if i = t then v else f i

/-- `pc t` is 0 before the acquire, `k + 1` after `k` accesses of the section, `length + 1` before the release, `length + 2`
    when finished; a thread that cannot move (lock taken, finished, no such thread) leaves the state as it is -/
def step (bodies : List (Body σ)) (s : St σ) (t : Nat) : St σ :=
  if t < bodies.length then
    let fs := bodyOf bodies t
    let p := s.pc t
    if p = 0 then
      match s.holder with
      | none => { s with holder := some t, pc := upd s.pc t 1, order := s.order ++ [t] }
      | some _ => s
    else if h : p - 1 < fs.length then
      { s with mem := (fs[p - 1]) s.mem, pc := upd s.pc t (p + 1) }
    else if p = fs.length + 1 then
      { s with holder := none, pc := upd s.pc t (p + 1) }
    else s
  else s

def foldEff (bodies : List (Body σ)) (o : List Nat) (m : σ) : σ :=
  o.foldl (fun m t => effect (bodyOf bodies t) m) m

def done (bodies : List (Body σ)) (s : St σ) (t : Nat) : Prop := s.pc t = (bodyOf bodies t).length + 2

/-- while the lock is free the memory is the serial execution of the completed sections; while `h` holds it, of those
    before `h`'s followed by the part of `h`'s section done so far; everybody else is before or after its section -/
structure Inv (bodies : List (Body σ)) (m0 : σ) (s : St σ) : Prop where
  idle : ∀ t, s.holder ≠ some t → s.pc t = 0 ∨ done bodies s t
  free : s.holder = none → s.mem = foldEff bodies s.order m0
  held : ∀ h, s.holder = some h →
    h < bodies.length ∧ 1 ≤ s.pc h ∧ s.pc h ≤ (bodyOf bodies h).length + 1 ∧
    ∃ o', s.order = o' ++ [h] ∧ s.mem = effect ((bodyOf bodies h).take (s.pc h - 1)) (foldEff bodies o' m0)

theorem effect_take_succ (fs : Body σ) (k : Nat) (hk : k < fs.length) (m : σ) :
    effect (fs.take (k + 1)) m = fs[k] (effect (fs.take k) m) := by
  unfold effect
  rw [List.take_succ_eq_append_getElem hk, List.foldl_append]
  rfl

theorem foldEff_snoc (bodies : List (Body σ)) (o : List Nat) (h : Nat) (m : σ) :
    foldEff bodies (o ++ [h]) m = effect (bodyOf bodies h) (foldEff bodies o m) := by
  unfold foldEff; rw [List.foldl_append]; rfl

theorem holder_of_inside {bodies : List (Body σ)} {m0 : σ} {s : St σ} (hI : Inv bodies m0 s) (t : Nat)
    (h0 : s.pc t ≠ 0) (h1 : s.pc t ≤ (bodyOf bodies t).length + 1) : s.holder = some t :=
  Classical.not_not.1 fun hne => (hI.idle t hne).elim h0 fun h => by unfold done at h; omega

theorem step_inv (bodies : List (Body σ)) (m0 : σ) (s : St σ) (t : Nat)
    (hI : Inv bodies m0 s) : Inv bodies m0 (step bodies s t) := by
  have others : ∀ {v : Nat} u, u ≠ t → (s.pc u = 0 ∨ done bodies s u) →
      (upd s.pc t v u = 0 ∨ done bodies { s with pc := upd s.pc t v } u) := by
    intro v u hu h; simpa [upd, hu, done] using h
  unfold step
  by_cases ht : t < bodies.length
  case neg => simpa [ht] using hI
  simp only [ht, if_true]
  by_cases hp0 : s.pc t = 0
  · simp only [hp0, if_true]
    cases hh : s.holder with
    | some h => simpa [hh] using hI
    | none =>
      refine { idle := fun u hu => ?_, free := nofun, held := ?_ }
      · have hut : u ≠ t := fun e => hu (congrArg some e.symm)
        have hfree : s.holder ≠ some u := hh ▸ nofun
        exact others u hut (hI.idle u hfree)
      · rintro _ ⟨⟩
        exact ⟨ht, by simp [upd], by simp [upd], s.order, rfl, by simp [upd, effect, hI.free hh]⟩
  simp only [hp0, if_false]
  by_cases hacc : s.pc t - 1 < (bodyOf bodies t).length
  · simp only [hacc, dite_true]
    have hle : s.pc t ≤ (bodyOf bodies t).length := Nat.le_of_pred_lt hacc
    have hh : s.holder = some t := holder_of_inside hI t hp0 (Nat.le_succ_of_le hle)
    obtain ⟨hlt, _, _, o', ho, hm⟩ := hI.held t hh
    refine { idle := fun u hu => ?_, free := fun e => ?_, held := fun h eh => ?_ }
    · have hut : u ≠ t := fun e => hu (e ▸ hh)
      exact others u hut (hI.idle u hu)
    · cases hh.symm.trans e
    · cases hh.symm.trans eh
      refine ⟨hlt, by simp [upd], by simpa [upd] using hle, o', ho, ?_⟩
      have e : s.pc t + 1 - 1 = (s.pc t - 1) + 1 :=
        (Nat.add_sub_cancel ..).trans (Nat.sub_add_cancel (Nat.pos_of_ne_zero hp0)).symm
      simp only [upd, if_true, e]
      rw [effect_take_succ _ _ hacc, hm]
  simp only [hacc, dite_false]
  by_cases hrel : s.pc t = (bodyOf bodies t).length + 1
  case neg => simpa [hrel] using hI
  simp only [hrel, if_true]
  have hh : s.holder = some t := holder_of_inside hI t hp0 (Nat.le_of_eq hrel)
  obtain ⟨_, _, _, o', ho, hm⟩ := hI.held t hh
  refine { idle := fun u _ => ?_, free := fun _ => ?_, held := nofun }
  · by_cases hu : u = t
    · subst hu; right; simp [done, upd]
    · have hnot : s.holder ≠ some u := fun e => hu (Option.some.inj (hh.symm.trans e)).symm
      exact others u hu (hI.idle u hnot)
  · rw [ho, foldEff_snoc, hm, hrel]
    simp

def init (m0 : σ) : St σ := { mem := m0, holder := none, pc := fun _ => 0, order := [] }

theorem init_inv (bodies : List (Body σ)) (m0 : σ) : Inv bodies m0 (init m0) :=
  { idle := fun _ _ => .inl rfl, free := fun _ => rfl, held := nofun }

theorem run_inv (bodies : List (Body σ)) (m0 : σ) (sched : List Nat) :
    Inv bodies m0 (sched.foldl (step bodies) (init m0)) :=
  List.foldlRecOn sched (step bodies) (init_inv bodies m0) fun s h t _ => step_inv bodies m0 s t h

/-- every schedule: whenever the lock is free, memory equals the serial execution of the
    critical sections in acquisition order -/
theorem serializes (bodies : List (Body σ)) (m0 : σ) (sched : List Nat) :
    let s := sched.foldl (step bodies) (init m0)
    s.holder = none → s.mem = foldEff bodies s.order m0 := by
  exact (run_inv bodies m0 sched).free

end LockSerial
