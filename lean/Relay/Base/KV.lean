/-!
# Association-list maps (`KV`) — the model of a Go `map[string]T`

Iteration order of a Go map is never observable in the models; everything derived from a
map is sorted by the canonicaliser on both sides of the correspondence.
-/

abbrev KV (α : Type) := List (String × α)

namespace KV
variable {α : Type}

def lookup : KV α → String → Option α
  | [], _ => none
  | (a, v) :: m, k => if a = k then some v else lookup m k

def has (m : KV α) (k : String) : Bool := (lookup m k).isSome

def erase : KV α → String → KV α
  | [], _ => []
  | (a, v) :: m, k => if a = k then erase m k else (a, v) :: erase m k

/-- `m[k] = v`: replaces every binding of `k` (there is at most one in a map built by `insert` and `erase`) -/
def insert (m : KV α) (k : String) (v : α) : KV α := (k, v) :: erase m k

def keep (p : String → α → Bool) : KV α → KV α
  | [] => []
  | (a, v) :: m => if p a v then (a, v) :: keep p m else keep p m

def keys (m : KV α) : List String := m.map (·.1)

def NoDupKeys : KV α → Prop
  | [] => True
  | (a, _) :: m => lookup m a = none ∧ NoDupKeys m

@[simp] theorem lookup_nil (k : String) : lookup ([] : KV α) k = none := rfl

theorem eq_nil_of_lookup_none (m : KV α) (h : ∀ k, lookup m k = none) : m = [] := by
  cases m with
  | nil => rfl
  | cons x t =>
    obtain ⟨k, v⟩ := x
    have := h k
    simp [lookup] at this

theorem lookup_erase (m : KV α) (k k' : String) :
    lookup (erase m k) k' = if k = k' then none else lookup m k' := by
  induction m with
  | nil => simp [lookup, erase]
  | cons p m ih =>
    obtain ⟨a, v⟩ := p
    simp only [erase, lookup]
    by_cases h1 : a = k
    · subst h1; rw [if_pos rfl, ih]; split <;> rfl
    · rw [if_neg h1]; simp only [lookup, ih]
      by_cases h2 : a = k'
      · subst h2; simp [Ne.symm h1]
      · simp [h2]

@[simp] theorem lookup_erase_self (m : KV α) (k : String) : lookup (erase m k) k = none := by
  rw [lookup_erase, if_pos rfl]

theorem lookup_erase_ne (m : KV α) {k k' : String} (h : k ≠ k') :
    lookup (erase m k) k' = lookup m k' := by
  rw [lookup_erase, if_neg h]

theorem lookup_insert (m : KV α) (k k' : String) (v : α) :
    lookup (insert m k v) k' = if k = k' then some v else lookup m k' := by
  simp only [insert, lookup, lookup_erase]
  split <;> rfl

@[simp] theorem lookup_insert_self (m : KV α) (k : String) (v : α) :
    lookup (insert m k v) k = some v := by
  rw [lookup_insert, if_pos rfl]

theorem lookup_insert_ne (m : KV α) {k k' : String} (v : α) (h : k ≠ k') :
    lookup (insert m k v) k' = lookup m k' := by
  rw [lookup_insert, if_neg h]

theorem lookup_keep_none (p : String → α → Bool) (m : KV α) (k : String)
    (h : lookup m k = none) : lookup (keep p m) k = none := by
  induction m with
  | nil => rfl
  | cons q m ih =>
    obtain ⟨a, v⟩ := q
    by_cases hak : a = k
    · simp [lookup, hak] at h
    · simp only [lookup, hak, if_false] at h
      by_cases hp : p a v <;> simp [keep, lookup, hp, hak, ih h]

theorem lookup_keep_of_nodup (p : String → α → Bool) (m : KV α) (k : String) (h : NoDupKeys m) :
    lookup (keep p m) k = (lookup m k).bind (fun v => if p k v then some v else none) := by
  induction m with
  | nil => rfl
  | cons q m ih =>
    obtain ⟨a, v⟩ := q
    obtain ⟨h1, h2⟩ := h
    have ih := ih h2
    by_cases hak : a = k
    · subst hak
      by_cases hp : p a v
      · simp [keep, lookup, hp]
      · simp [keep, lookup, hp, ih, h1]
    · by_cases hp : p a v <;> simp [keep, lookup, hp, hak, ih]

theorem has_erase (m : KV α) (k k' : String) : has (erase m k) k' = (k != k' && has m k') := by
  rw [has, lookup_erase]
  by_cases h : k = k' <;> simp [h, has]

@[simp] theorem has_erase_self (m : KV α) (k : String) : has (erase m k) k = false := by
  rw [has_erase, bne_self_eq_false, Bool.false_and]

theorem has_insert (m : KV α) (k k' : String) (v : α) : has (insert m k v) k' = (k == k' || has m k') := by
  rw [has, lookup_insert]
  by_cases h : k = k' <;> simp [h, has]

@[simp] theorem has_insert_self (m : KV α) (k : String) (v : α) : has (insert m k v) k = true := by
  rw [has_insert, beq_self_eq_true, Bool.true_or]

theorem has_of_has_keep (p : String → α → Bool) (m : KV α) (k : String) (h : has (keep p m) k = true) :
    has m k = true := by
  cases hm : lookup m k with
  | none => rw [has, lookup_keep_none p m k hm] at h; cases h
  | some v => rw [has, hm]; rfl

theorem mem_keys_iff_has (m : KV α) (k : String) : k ∈ keys m ↔ has m k = true := by
  induction m with
  | nil => simp [keys, has]
  | cons q m ih =>
    obtain ⟨a, v⟩ := q
    by_cases hak : a = k
    · simp [keys, has, lookup, hak]
    · have hcons : has ((a, v) :: m) k = has m k := by rw [has, lookup, if_neg hak, has]
      rw [hcons, ← ih]
      exact List.mem_cons.trans (or_iff_right fun e => hak e.symm)

theorem erase_absent (m : KV α) (k : String) (h : lookup m k = none) : erase m k = m := by
  induction m with
  | nil => rfl
  | cons p m ih =>
    obtain ⟨a, v⟩ := p
    by_cases hak : a = k
    · simp [lookup, hak] at h
    · simp only [lookup, hak, if_false] at h
      simp only [erase, hak, if_false, ih h]

theorem insert_insert_self (m : KV α) (k : String) (v v' : α) : insert (insert m k v) k v' = insert m k v' := by
  simp only [insert, erase, if_true, erase_absent _ k (lookup_erase_self m k)]

theorem keep_eq_filter (p : String → α → Bool) (m : KV α) : keep p m = m.filter (fun kv => p kv.1 kv.2) := by
  induction m with
  | nil => rfl
  | cons q m ih => obtain ⟨a, v⟩ := q; by_cases hp : p a v <;> simp [keep, hp, ih]

theorem keep_congr (p q : String → α → Bool) (m : KV α) (h : ∀ kv ∈ m, p kv.1 kv.2 = q kv.1 kv.2) :
    keep p m = keep q m := by
  rw [keep_eq_filter, keep_eq_filter]; exact List.filter_congr h

theorem keep_true (m : KV α) : keep (fun _ _ => true) m = m := by
  rw [keep_eq_filter]; exact List.filter_eq_self.2 fun _ _ => rfl

theorem keep_keep (p q : String → α → Bool) (m : KV α) :
    keep p (keep q m) = keep (fun a v => q a v && p a v) m := by
  simp only [keep_eq_filter, List.filter_filter, Bool.and_comm]

theorem erase_eq_keep (m : KV α) (k : String) : erase m k = keep (fun a _ => a != k) m := by
  induction m with
  | nil => rfl
  | cons x m ih =>
    obtain ⟨a, v⟩ := x
    by_cases hak : a = k <;> simp [erase, keep, hak, ih]

theorem noDupKeys_iff (m : KV α) : NoDupKeys m ↔ (keys m).Nodup := by
  induction m with
  | nil => exact ⟨fun _ => List.nodup_nil, fun _ => trivial⟩
  | cons q m ih =>
    rw [NoDupKeys, keys, List.map_cons, List.nodup_cons, ih, ← Option.not_isSome_iff_eq_none, ← has, ← mem_keys_iff_has]
    rfl

theorem nodup_keep (p : String → α → Bool) (m : KV α) (h : NoDupKeys m) :
    NoDupKeys (keep p m) := by
  rw [noDupKeys_iff] at h ⊢
  rw [keep_eq_filter]
  exact h.sublist (List.filter_sublist.map _)

theorem nodup_erase (m : KV α) (k : String) (h : NoDupKeys m) : NoDupKeys (erase m k) :=
  erase_eq_keep m k ▸ nodup_keep _ m h

theorem nodup_insert (m : KV α) (k : String) (v : α) (h : NoDupKeys m) :
    NoDupKeys (insert m k v) :=
  ⟨lookup_erase_self m k, nodup_erase m k h⟩

theorem mem_of_lookup (m : KV α) (k : String) (v : α) (h : lookup m k = some v) : (k, v) ∈ m := by
  induction m with
  | nil => simp [lookup] at h
  | cons p m ih =>
    obtain ⟨a, w⟩ := p
    by_cases hak : a = k
    · subst hak
      simp only [lookup, if_true, Option.some.injEq] at h
      subst h
      exact List.mem_cons_self
    · simp only [lookup, hak, if_false] at h
      exact List.mem_cons_of_mem _ (ih h)

theorem lookup_of_mem (m : KV α) (k : String) (v : α) (nd : NoDupKeys m) (h : (k, v) ∈ m) :
    lookup m k = some v := by
  induction m with
  | nil => cases h
  | cons p m ih =>
    obtain ⟨a, w⟩ := p
    rcases List.mem_cons.1 h with e | e
    · cases e; simp [lookup]
    · -- `k` is bound in the tail, so the head's key (unbound there) is another one
      have hak : a ≠ k := by
        rintro rfl
        have := (mem_keys_iff_has m a).1 (List.mem_map.2 ⟨_, e, rfl⟩)
        simp [has, nd.1] at this
      simp only [lookup, hak, if_false]
      exact ih nd.2 e

theorem nodup_of_noDupKeys (m : KV α) (hm : NoDupKeys m) : m.Nodup :=
  List.Pairwise.of_map (·.1) (fun _ _ h e => h (congrArg _ e)) ((noDupKeys_iff m).1 hm)

end KV
