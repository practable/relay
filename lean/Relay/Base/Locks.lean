/-!
# Lock discipline: events, the `wellLocked` check, and why it gives race freedom

A thread body is a list of events in source order: `lock m | unlock m | rlock m | runlock m | rd x | wr x`.
`guardOf` is the hand-written table saying which mutex guards which shared location (C12's list of
guarded state). `wellLocked` checks one body in isolation. If every body passes, then in a configuration that
respects mutex semantics (`Compatible`) two conflicting accesses to one location are never enabled together
(`no_race_enabled`), and every configuration that any number of threads can reach under any schedule is such a one
(`reach_compatible`).
-/

namespace Locks

inductive Ev where
  | lock (m : String)
  | unlock (m : String)
  | rlock (m : String)
  | runlock (m : String)
  | rd (loc : String)
  | wr (loc : String)
deriving Repr, DecidableEq

/-- hand-written and trusted; locations and mutexes under the names the extractor gives them (`Extracted.methods`) -/
def guardOf : String → Option String
  | "CodeStore.store" => some "ttlcode.CodeStore"
  | "deny.AllowList" => some "deny.Store"
  | "deny.DenyList" => some "deny.Store"
  | "chanmap.ChildrenByParent" => some "chanmap.Store"
  | "chanmap.ParentByChild" => some "chanmap.Store"
  | "crossbar.Hub.clients" => some "crossbar.Hub.mu"
  | "crossbar.Frames.tx" => some "crossbar.Frames.tx.mu"
  | "crossbar.Frames.rx" => some "crossbar.Frames.rx.mu"
  | _ => none

structure Held where
  w : List String := []
  r : List String := []
deriving Repr

def holdsAny (h : Held) (m : String) : Bool := h.w.contains m || h.r.contains m

def after (h : Held) : Ev → Held
  | .lock m => { h with w := m :: h.w }
  | .unlock m => { h with w := h.w.erase m }
  | .rlock m => { h with r := m :: h.r }
  | .runlock m => { h with r := h.r.erase m }
  | _ => h

def okEv (h : Held) : Ev → Bool
  | .lock m => !holdsAny h m
  | .unlock m => h.w.contains m
  | .rlock m => !holdsAny h m
  | .runlock m => h.r.contains m
  | .rd x => match guardOf x with
    | some m => holdsAny h m
    | none => false
  | .wr x => match guardOf x with
    | some m => h.w.contains m
    | none => false

def check : Held → List Ev → Bool
  | h, [] => h.w.isEmpty && h.r.isEmpty
  | h, e :: es => okEv h e && check (after h e) es

/-- every read is under the guard (R or W), every write under W, no mutex taken by a thread that holds it (Go's are not
    re-entrant), only held ones released, nothing held at exit -/
def wellLocked (body : List Ev) : Bool := check {} body

def heldAfter (h : Held) (evs : List Ev) : Held := evs.foldl after h

theorem check_getElem? {h : Held} {l : List Ev} {i : Nat} {e : Ev} (hc : check h l = true) (he : l[i]? = some e) :
    okEv (heldAfter h (l.take i)) e = true := by
  induction l generalizing h i with
  | nil => cases he
  | cons a l ih =>
    rw [check, Bool.and_eq_true] at hc
    cases i with
    | zero => cases he; exact hc.1
    | succ i => exact ih hc.2 he

theorem okEv_wr {h : Held} {x : String} (ok : okEv h (.wr x) = true) :
    ∃ m, guardOf x = some m ∧ h.w.contains m = true := by
  simp only [okEv] at ok
  split at ok
  next m hg => exact ⟨m, hg, ok⟩
  next => cases ok

theorem okEv_rd {h : Held} {x : String} (ok : okEv h (.rd x) = true) :
    ∃ m, guardOf x = some m ∧ holdsAny h m = true := by
  simp only [okEv] at ok
  split at ok
  next m hg => exact ⟨m, hg, ok⟩
  next => cases ok

structure Config where
  bodies : List (List Ev)
  pc : Nat → Nat

def Config.heldOf (c : Config) (t : Nat) : Held := heldAfter {} ((c.bodies.getD t []).take (c.pc t))

def Config.next (c : Config) (t : Nat) : Option Ev := (c.bodies.getD t [])[c.pc t]?

/-- mutex semantics: a mutex held for writing by one thread is held by nobody else in any mode -/
def Compatible (c : Config) : Prop :=
  ∀ t1 t2 m, t1 ≠ t2 → (c.heldOf t1).w.contains m = true → holdsAny (c.heldOf t2) m = false

def conflicting : Ev → Ev → Option String
  | .wr x, .wr y => if x = y then some x else none
  | .wr x, .rd y => if x = y then some x else none
  | .rd x, .wr y => if x = y then some x else none
  | _, _ => none

theorem Config.body_mem (c : Config) (t : Nat) (e : Ev) (h : c.next t = some e) : c.bodies.getD t [] ∈ c.bodies := by
  have ht : t < c.bodies.length := by
    rcases Nat.lt_or_ge t c.bodies.length with h' | h'
    · exact h'
    · simp [Config.next, List.getD, List.getElem?_eq_none h'] at h
  simp only [List.getD, List.getElem?_eq_getElem ht, Option.getD_some]
  exact List.getElem_mem ht

theorem Config.okEv_next (c : Config) (hw : ∀ b ∈ c.bodies, wellLocked b = true) (t : Nat) (e : Ev)
    (h : c.next t = some e) : okEv (c.heldOf t) e = true :=
  check_getElem? (hw _ (c.body_mem t e h)) h

theorem holdsAny_of_w {h : Held} {m : String} (hm : h.w.contains m = true) : holdsAny h m = true := by
  simp only [holdsAny, hm, Bool.true_or]

theorem okEv_access {h : Held} {e : Ev} {x : String} (ok : okEv h e = true) (he : e = .wr x ∨ e = .rd x) :
    ∃ m, guardOf x = some m ∧ holdsAny h m = true := by
  rcases he with rfl | rfl
  · obtain ⟨m, hg, hm⟩ := okEv_wr ok
    exact ⟨m, hg, holdsAny_of_w hm⟩
  · exact okEv_rd ok

/-- **race freedom**: in a configuration compatible with mutex semantics, if every body is well-locked,
    no two different threads have conflicting accesses to the same location enabled at the same time. -/
theorem no_race_enabled (c : Config) (hc : Compatible c)
    (hw : ∀ b ∈ c.bodies, wellLocked b = true) (t1 t2 : Nat) (hne : t1 ≠ t2) (e1 e2 : Ev)
    (h1 : c.next t1 = some e1) (h2 : c.next t2 = some e2) : conflicting e1 e2 = none := by
  -- a write to `x` and another access to `x` need the guard of `x`, the write for writing: excluded by `Compatible`
  have excl : ∀ {ta tb : Nat} {x y : String} {eb : Ev}, ta ≠ tb → c.next ta = some (.wr x) → c.next tb = some eb →
      (eb = .wr y ∨ eb = .rd y) → x ≠ y := by
    rintro ta tb x _ eb hab ha hb heb rfl
    obtain ⟨m, hg, hm⟩ := okEv_wr (c.okEv_next hw ta _ ha)
    obtain ⟨m', hg', hm'⟩ := okEv_access (c.okEv_next hw tb eb hb) heb
    rw [hg] at hg'; cases hg'
    rw [hc ta tb m hab hm] at hm'; cases hm'
  unfold conflicting
  split
  · exact if_neg (excl hne h1 h2 (.inl rfl))
  · exact if_neg (excl hne h1 h2 (.inr rfl))
  · exact if_neg (excl (Ne.symm hne) h2 h1 (.inr rfl)).symm
  · rfl

/-! ### executions under mutex semantics stay compatible -/

def upd (f : Nat → Nat) (t v : Nat) : Nat → Nat := fun i => if i = t then v else f i

/-- thread `t` takes its next event, if mutex semantics allows it -/
inductive Step : Config → Config → Prop where
  | lock (c : Config) (t : Nat) (m : String) (h : c.next t = some (.lock m))
      (free : ∀ t', t' ≠ t → holdsAny (c.heldOf t') m = false) : Step c { c with pc := upd c.pc t (c.pc t + 1) }
  | rlock (c : Config) (t : Nat) (m : String) (h : c.next t = some (.rlock m))
      (free : ∀ t', t' ≠ t → (c.heldOf t').w.contains m = false) : Step c { c with pc := upd c.pc t (c.pc t + 1) }
  | other (c : Config) (t : Nat) (e : Ev) (h : c.next t = some e)
      (hl : ∀ m, e ≠ .lock m ∧ e ≠ .rlock m) : Step c { c with pc := upd c.pc t (c.pc t + 1) }

inductive Reach (bodies : List (List Ev)) : Config → Prop where
  | init : Reach bodies { bodies := bodies, pc := fun _ => 0 }
  | step (c c' : Config) : Reach bodies c → Step c c' → Reach bodies c'

theorem heldOf_step_self (c : Config) (t : Nat) (e : Ev) (h : c.next t = some e) :
    ({ c with pc := upd c.pc t (c.pc t + 1) } : Config).heldOf t = after (c.heldOf t) e := by
  obtain ⟨hlt, hget⟩ := List.getElem?_eq_some_iff.1 h
  simp only [Config.heldOf, upd, if_true]
  rw [List.take_succ_eq_append_getElem hlt, hget]
  simp [heldAfter, List.foldl_append]

theorem heldOf_step_other (c : Config) (t t' : Nat) (h : t' ≠ t) :
    ({ c with pc := upd c.pc t (c.pc t + 1) } : Config).heldOf t' = c.heldOf t' := by
  simp [Config.heldOf, upd, h]

theorem after_w (h : Held) (e : Ev) (m : String) (hm : (after h e).w.contains m = true) :
    h.w.contains m = true ∨ e = .lock m := by
  cases e <;> simp only [after, List.contains_eq_mem, List.mem_cons, decide_eq_true_eq] at hm ⊢
  case lock =>
    rcases hm with rfl | hm
    · exact .inr rfl
    · exact .inl hm
  case unlock => exact .inl (List.mem_of_mem_erase hm)
  all_goals exact .inl hm

theorem after_any (h : Held) (e : Ev) (m : String) (hm : holdsAny (after h e) m = true) :
    holdsAny h m = true ∨ e = .lock m ∨ e = .rlock m := by
  cases e <;> simp only [holdsAny, after, List.contains_eq_mem, List.mem_cons, Bool.or_eq_true, decide_eq_true_eq] at hm ⊢
  case lock => rcases hm with (hm | hm) | hm <;> simp [hm]
  case rlock => rcases hm with hm | hm | hm <;> simp [hm]
  case unlock => exact .inl (hm.imp_left List.mem_of_mem_erase)
  case runlock => exact .inl (hm.imp_right List.mem_of_mem_erase)
  all_goals exact .inl hm

/-- all that `Compatible` needs of a step, whichever event is taken: only thread `t`'s held set changes; what it newly holds
    for writing nobody else held in any mode, what it newly holds in any mode nobody else held for writing -/
theorem compatible_of_update {c c' : Config} {t : Nat} (hc : Compatible c)
    (hother : ∀ t', t' ≠ t → c'.heldOf t' = c.heldOf t')
    (hwr : ∀ m, (c'.heldOf t).w.contains m = true →
      (c.heldOf t).w.contains m = true ∨ ∀ t', t' ≠ t → holdsAny (c.heldOf t') m = false)
    (hany : ∀ m, holdsAny (c'.heldOf t) m = true →
      holdsAny (c.heldOf t) m = true ∨ ∀ t', t' ≠ t → (c.heldOf t').w.contains m = false) : Compatible c' := by
  intro t1 t2 m hne hw
  by_cases h1 : t1 = t
  · subst h1
    rw [hother t2 (Ne.symm hne)]
    rcases hwr m hw with h | h
    · exact hc t1 t2 m hne h
    · exact h t2 (Ne.symm hne)
  · rw [hother t1 h1] at hw
    by_cases h2 : t2 = t
    · subst h2
      cases hh : holdsAny (c'.heldOf t2) m
      · rfl
      · rcases hany m hh with h | h
        · rw [hc t1 t2 m hne hw] at h; cases h
        · rw [h t1 h1] at hw; cases hw
    · rw [hother t2 h2]; exact hc t1 t2 m hne hw

theorem Step.shape {c c' : Config} (hs : Step c c') :
    ∃ t e, c.next t = some e ∧ c' = { c with pc := upd c.pc t (c.pc t + 1) } ∧
      (∀ m, e = .lock m → ∀ t', t' ≠ t → holdsAny (c.heldOf t') m = false) ∧
      (∀ m, e = .rlock m → ∀ t', t' ≠ t → (c.heldOf t').w.contains m = false) := by
  cases hs with
  | lock t m h free => exact ⟨t, _, h, rfl, fun _ e => by cases e; exact free, fun _ e => nomatch e⟩
  | rlock t m h free => exact ⟨t, _, h, rfl, (fun _ e => nomatch e), fun _ e => by cases e; exact free⟩
  | other t e h hl => exact ⟨t, e, h, rfl, fun m e' => absurd e' (hl m).1, fun m e' => absurd e' (hl m).2⟩

theorem step_compatible (c c' : Config) (hc : Compatible c) (hs : Step c c') : Compatible c' := by
  obtain ⟨t, e, h, rfl, hlock, hrlock⟩ := hs.shape
  refine compatible_of_update hc (heldOf_step_other c t) ?_ ?_
  · intro m hm
    rw [heldOf_step_self c t e h] at hm
    exact (after_w _ _ _ hm).imp_right (hlock m)
  · intro m hm
    rw [heldOf_step_self c t e h] at hm
    rcases after_any _ _ _ hm with hheld | elock | erlock
    · exact .inl hheld
    · -- free in every mode, in particular for writing
      refine .inr fun t' ht' => ?_
      have hfree : ((c.heldOf t').w.contains m || (c.heldOf t').r.contains m) = false := hlock m elock t' ht'
      exact (Bool.or_eq_false_iff.1 hfree).1
    · exact .inr (hrlock m erlock)

theorem reach_compatible (bodies : List (List Ev)) (c : Config) (h : Reach bodies c) : Compatible c := by
  induction h with
  | init => intro t1 t2 m _ hw; simp [Config.heldOf, heldAfter] at hw
  | step c c' _ hs ih => exact step_compatible c c' ih hs

theorem reach_bodies (bodies : List (List Ev)) (c : Config) (h : Reach bodies c) : c.bodies = bodies := by
  induction h with
  | init => rfl
  | step c c' _ hs ih => cases hs <;> exact ih

/-- **C12, lock discipline ⇒ race freedom for every interleaving**: if every thread body is well-locked,
    then in every configuration reachable under mutex semantics (any number of threads, any schedule) no
    two threads have conflicting accesses to one guarded location enabled together. -/
theorem wellLocked_race_free (bodies : List (List Ev)) (hw : ∀ b ∈ bodies, wellLocked b = true)
    (c : Config) (hr : Reach bodies c) (t1 t2 : Nat) (hne : t1 ≠ t2) (e1 e2 : Ev)
    (h1 : c.next t1 = some e1) (h2 : c.next t2 = some e2) : conflicting e1 e2 = none :=
  no_race_enabled c (reach_compatible bodies c hr) (by rw [reach_bodies bodies c hr]; exact hw) t1 t2 hne e1 e2 h1 h2

end Locks
