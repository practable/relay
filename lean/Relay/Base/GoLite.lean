import Relay.Base.KV

/-!
# GoLite — the target vocabulary of the Go → Lean translator (`extract/translate.go`)

The translator turns the straight-line / range-loop subset of Go in which the relay's stores (`internal/deny`,
`internal/ttlcode`, `internal/chanmap`), `internal/permission`, the access handlers and the event loops of the two hubs
(`internal/crossbar`, `internal/hub`) are written into Lean definitions built from the few operations below. This file is the
(hand-written, trusted) semantics of that subset; `GoAccess.lean` adds what only the access handlers need (principal,
parameters, responders).

* `int`, `int64`, … ↦ `Int` (unbounded: the translated code does no arithmetic that can overflow except
  `now + ttl`, an assumption listed in DESIGN.md §5); `string` ↦ `String`; `bool` ↦ `Bool`; `[]T` ↦ `List T`
  (`append(x, y)` ↦ `x ++ [y]`, `len` ↦ `Go.sliceLen`);
  `map[string]T` ↦ `Go.Map T` (= `KV T`, at most one binding per key under `insert`/`erase`);
  `error` ↦ `Go.Error` = `Option String` (`nil` ↦ `none`); `chan T` ↦ `Go.Chan` (an identity);
  a pointer to a struct is the struct (a nil RESULT is its zero value, produced only together with a non-nil error), and a
  pointer receiver is a value threaded through and returned.
* `*jwt.NumericDate`, the one pointer that is nil-able DATA, ↦ `Option Go.NumericDate`; `*p` ↦ `Go.deref p`, emitted only
  where a nil test dominates. `jwt.RegisteredClaims` and (seen from the code store) `permission.Token` are the structures
  `Go.RegisteredClaims`, `Go.Token` below.
* `m[k]` ↦ `Go.Map.get` (zero value when absent), `v, ok := m[k]` ↦ `get` / `has`, `m[k] = v` ↦ `set`,
  `delete(m, k)` ↦ `Go.Map.delete`, `len(m)` ↦ `Go.Map.len`, `make(map…)` ↦ `Go.Map.empty`.
* `for k, v := range m` ↦ `Go.forRange (w.ord m) …`: the iteration order is NOT fixed — `w.ord` is an
  arbitrary function and theorems about translated code assume only `World.OrdOk` (it returns a
  permutation), so they hold for every order Go may choose. `for i, x := range slice` ↦ `Go.forSlice`.
* external calls are fields of the `World`: the clock, the uuid generator.
* `close(ch)` appends `ch`, and a plain send `ch <- v` appends `v`, to an effect log (one for each kind) that the function returns.
* `map[*T]V` ↦ `Go.PMap T V` (pointer keys: the translated struct carries the object's identity in a field `addr__`); ranged over in
  the order `w.ordP` (again arbitrary: `World.OrdPOk`).
* `select { case ch <- v: A; default: B }` ↦ `if w.ready ch then (log the send (ch, v); A) else B`: whether a non-blocking send goes
  through is decided by the environment at that instant; theorems quantify over `w.ready`.
* `delete(m[a], b)` writes the inner map back with `Map.setIfPresent` (no entry for `a` appears when there was none, as in Go).
-/

namespace Go

abbrev Map (α : Type) := KV α
abbrev Chan := Nat
abbrev Error := Option String

/-- `permission.Token` as far as the store packages look into it: the booking id; everything else (topic, scopes,
    registered claims) is carried along opaquely as `payload` -/
structure Token where
  BookingID : String := ""
  payload : Nat := 0
deriving Inhabited, DecidableEq, Repr

/-- `*p` of a nil-able pointer; the translator emits it only where a nil test dominates (otherwise the function is
    reported untranslatable: possible nil dereference), so the `default` branch is never the one that matters -/
def deref {α : Type} [Inhabited α] (p : Option α) : α := p.getD default

/-- `jwt.NumericDate` (a `time.Time`) as Unix seconds; `IsZero` is the zero `time.Time`, year 1 -/
structure NumericDate where
  unix : Int := 0
deriving Inhabited, DecidableEq, Repr

def NumericDate.IsZero (d : NumericDate) : Bool := decide (d.unix = -62135596800)

/-- `jwt.RegisteredClaims` as far as the relay reads it -/
structure RegisteredClaims where
  Audience : List String := []
  ExpiresAt : Option NumericDate := none
  NotBefore : Option NumericDate := none
  IssuedAt : Option NumericDate := none
deriving Inhabited, DecidableEq, Repr

/-- what the translated code cannot compute itself -/
structure World where
  now : Int                                   -- `GetTime()` / `time.Now().Unix()`
  fresh : String                              -- the next `uuid.New().String()`
  ord : {α : Type} → List (String × α) → List (String × α)     -- the order in which a map is ranged over
  /-- the order in which a pointer-keyed map is ranged over -/
  ordP : {κ α : Type} → List (κ × α) → List (κ × α) := fun l => l
  /-- `select { case ch <- v: … default: … }`: is there room in `ch`'s buffer (or a receiver waiting) at this instant?
      The environment's choice: the receiving goroutine drains concurrently. -/
  ready : Nat → Bool := fun _ => true

def World.OrdOk (w : World) : Prop := ∀ (α : Type) (m : List (String × α)), (w.ord m).Perm m
def World.OrdPOk (w : World) : Prop := ∀ (κ α : Type) (m : List (κ × α)), (w.ordP m).Perm m

/-- `map[*T]V` -/
abbrev PMap (κ α : Type) := List (κ × α)

namespace PMap
variable {κ α : Type} [DecidableEq κ]

def lookup : PMap κ α → κ → Option α
  | [], _ => none
  | (a, v) :: m, k => if a = k then some v else lookup m k
def erase : PMap κ α → κ → PMap κ α
  | [], _ => []
  | (a, v) :: m, k => if a = k then erase m k else (a, v) :: erase m k
def get [Inhabited α] (m : PMap κ α) (k : κ) : α := (lookup m k).getD default
def has (m : PMap κ α) (k : κ) : Bool := (lookup m k).isSome
def set (m : PMap κ α) (k : κ) (v : α) : PMap κ α := (k, v) :: erase m k
def delete (m : PMap κ α) (k : κ) : PMap κ α := erase m k
def len (m : PMap κ α) : Int := (m.length : Int)
def empty : PMap κ α := []

end PMap

/-- `for k, v := range m` over a pointer-keyed map -/
def forRangeP {κ α σ : Type} (entries : List (κ × α)) (init : σ) (body : σ → κ → α → σ) : σ :=
  entries.foldl (fun acc kv => body acc kv.1 kv.2) init

namespace Map
variable {α : Type}

def get [Inhabited α] (m : Map α) (k : String) : α := (KV.lookup m k).getD default
def has (m : Map α) (k : String) : Bool := KV.has m k
def set (m : Map α) (k : String) (v : α) : Map α := KV.insert m k v
def delete (m : Map α) (k : String) : Map α := KV.erase m k
def len (m : Map α) : Int := (m.length : Int)
def empty : Map α := []
/-- write-back of `delete(m[k], x)`: deleting from the nil map of an absent `k` is a no-op in Go and creates no entry -/
def setIfPresent (m : Map α) (k : String) (v : α) : Map α := if KV.has m k then KV.insert m k v else m

theorem len_eq_zero (x : Map α) : len x = 0 ↔ x = [] := by
  cases x <;> simp [len] <;> omega

end Map

/-- `for k, v := range m { body }` with the loop-carried variables packed in `σ` -/
def forRange {α σ : Type} (entries : List (String × α)) (init : σ) (body : σ → String → α → σ) : σ :=
  entries.foldl (fun acc kv => body acc kv.1 kv.2) init

/-- `for i, x := range slice { body }` -/
def forSlice {α σ : Type} (xs : List α) (init : σ) (body : σ → Int → α → σ) : σ :=
  (xs.foldl (fun (acc : σ × Int) x => (body acc.1 acc.2 x, acc.2 + 1)) (init, 0)).1

def sliceLen {α : Type} (xs : List α) : Int := (xs.length : Int)

theorem forSlice_eq_foldl {α σ : Type} (xs : List α) (init : σ) (f : σ → α → σ) :
    forSlice xs init (fun acc _ x => f acc x) = xs.foldl f init := by
  unfold forSlice
  suffices ∀ (i : Int) (s : σ), (xs.foldl (fun (acc : σ × Int) x => (f acc.1 x, acc.2 + 1)) (s, i)).1 = xs.foldl f s from this 0 init
  induction xs with
  | nil => intro i s; rfl
  | cons x xs ih => intro i s; simp only [List.foldl_cons]; exact ih _ _

/-- the translated `for _, k := range ks { delete(s.M, k) }` carries the whole receiver `s`; this moves the loop to the field
    (`set s t`: `s` with that field replaced by `t`) -/
theorem forSlice_field {α σ τ : Type} (set : σ → τ → σ) (f : τ → α → τ) (body : σ → α → σ)
    (h : ∀ s t x, body (set s t) x = set s (f t x)) (xs : List α) (s : σ) (t : τ) :
    forSlice xs (set s t) (fun s _ x => body s x) = set s (forSlice xs t (fun t _ x => f t x)) := by
  rw [forSlice_eq_foldl, forSlice_eq_foldl]
  induction xs generalizing t with
  | nil => rfl
  | cons x xs ih => rw [List.foldl_cons, List.foldl_cons, h, ih]

theorem sliceLen_eq_zero {α : Type} (l : List α) : sliceLen l = 0 ↔ l.isEmpty = true := by
  cases l <;> simp [sliceLen] <;> omega

/-- how the translator renders `if c { return false }; return true` -/
theorem ite_false_true (c : Bool) : (if c = true then false else true) = !c := by cases c <;> rfl

theorem ite_bnot {α : Type} (c : Bool) (x y : α) : (if (!c) = true then x else y) = if c = true then y else x := by
  cases c <;> rfl

theorem forRange_collect {α : Type} (p : String → α → Bool) (l : List (String × α)) (acc : List String) :
    forRange l acc (fun st k v => if p k v = true then st ++ [k] else st) = acc ++ (l.filter (fun kv => p kv.1 kv.2)).map (·.1) := by
  unfold forRange
  induction l generalizing acc with
  | nil => simp
  | cons x l ih =>
    simp only [List.foldl_cons, List.filter_cons]
    rw [ih]
    by_cases h : p x.1 x.2 = true <;> simp [h]

theorem forRange_keys {α : Type} (l : List (String × α)) (acc : List String) :
    forRange l acc (fun st k _ => st ++ [k]) = acc ++ l.map (·.1) := by
  simpa [List.filter_eq_self.2] using forRange_collect (fun _ _ => true) l acc

theorem foldl_delete_eq_keep {α : Type} (ks : List String) (m : Map α) :
    ks.foldl (fun m k => Map.delete m k) m = KV.keep (fun a _ => !ks.contains a) m := by
  induction ks generalizing m with
  | nil => simp only [List.foldl_nil]; exact (KV.keep_true m).symm
  | cons k ks ih =>
    simp only [List.foldl_cons]
    rw [ih, Map.delete, KV.erase_eq_keep, KV.keep_keep]
    apply KV.keep_congr
    intro kv _
    by_cases h : kv.1 = k <;> simp [h]

theorem lookup_of_mem_nodup {α : Type} (m : KV α) (h : KV.NoDupKeys m) (a : String) (v : α) (hm : (a, v) ∈ m) :
    KV.lookup m a = some v :=
  KV.lookup_of_mem m a v h hm

/-- **the stale-sweep idiom** (`deny.prune`, `ttlcode.CleanExpired`, `DeleteByBookingID`):
    range over the map in ANY order (`order`) collecting the keys that satisfy `p`, then delete the collected keys. -/
theorem sweep_eq_keep {α : Type} (p : String → α → Bool) (m : Map α) (hm : KV.NoDupKeys m)
    (order : List (String × α)) (hperm : order.Perm m) :
    ((order.filter (fun kv => p kv.1 kv.2)).map (·.1)).foldl (fun m k => Map.delete m k) m = KV.keep (fun a v => !p a v) m := by
  rw [foldl_delete_eq_keep]
  apply KV.keep_congr
  intro kv hkv
  obtain ⟨a, v⟩ := kv
  -- `a` was collected iff its binding satisfies `p`: the binding collected under `a` is `(a, v)`, as `m` binds `a` once
  show (!List.contains _ a) = !p a v
  congr 1
  rw [Bool.eq_iff_iff, List.contains_eq_mem, decide_eq_true_eq, List.mem_map]
  constructor
  · rintro ⟨⟨b, u⟩, hmem, rfl⟩
    rw [List.mem_filter] at hmem
    have l1 := KV.lookup_of_mem m b u hm (hperm.mem_iff.1 hmem.1)
    rw [KV.lookup_of_mem m b v hm hkv] at l1
    cases l1
    exact hmem.2
  · exact fun hp => ⟨(a, v), List.mem_filter.2 ⟨hperm.mem_iff.2 hkv, hp⟩, rfl⟩

/-- … as the translator renders it (`forRange` in the order `w.ord` collecting into a slice, `forSlice` deleting):
    one stale sweep of the translated `prune` (one per list), `CleanExpired`, `DeleteByBookingID` -/
theorem sweep_collect_delete {α : Type} (w : World) (hw : w.OrdOk) (m : Map α) (hm : KV.NoDupKeys m) (p : String → α → Bool) :
    forSlice (forRange (w.ord m) ([] : List String) (fun st k v => if p k v = true then st ++ [k] else st))
        m (fun m _ k => Map.delete m k)
      = KV.keep (fun a v => !p a v) m := by
  rw [forSlice_eq_foldl, forRange_collect p]
  simp only [List.nil_append]
  exact sweep_eq_keep p m hm (w.ord m) (hw _ m)

end Go
