/-!
# Model of the ingest flush (`internal/vw/handleTs.go`, `internal/tcpconnect` `HandleConn`), of the
message ingest (`internal/vw/handleWs.go` `readPump`) and of the fan-out by reference
(`internal/hub/hub.go`), with an explicit heap.

Go (both flush sites are the same code):

```
reader goroutine :  n := ReadAtLeast(reader, glob, 1);  lock; frameBuffer.b.Write(glob[:n]); unlock
main loop, every time 1 ms passes without a read:
    lock
    n, err := frameBuffer.b.Read(rawFrame)          // at most len(rawFrame) = max bytes
    frame := append([]byte(nil), rawFrame[:n]...)   // since 833d3d2; before: frame := rawFrame[:n]
    frameBuffer.b.Reset()                           // whatever was not read is DROPPED
    unlock
    if err == nil && n > 0 { hand on frame }        // hub.Broadcast (vw) / c.In (tcpconnect)
hub: for every subscribed client:  select { case client.Send <- message: default: }   // by reference
```

Heap objects: the accumulation buffer `acc`, the flush array `raw` (one per handler, reused by every
flush) and messages. A message is either a VALUE (a fresh copy, immutable from then on) or a VIEW
`(raw, len)` = the Go slice `rawFrame[:n]`, whose bytes are looked up **when the consumer reads it**.
`copyOnFlush` selects which of the two the flush hands on (true = the code in /repo today).

`raw` is modelled by the prefix that has ever been written (Go: a zero-filled array of length `max`);
a view of length `n` is created only by a flush that has just written `n` bytes, so `n ≤ raw.length`
from then on and the unwritten tail is never observed.

The 1 ms idle timer is the nondeterministic point: `flush` may occur between any two writes.
Whether a subscriber's queue takes a message (`select … default`) depends on timing and queue depth:
it is an input of the `flush` op (the list of consumers that accept), so theorems quantify over it.
A consumer is everything between the hub's send and the moment the bytes are looked at (channel
buffer, goroutine holding the slice, websocket writer): `queue` holds the messages handed on whose
content has not been read yet.
-/

namespace Flush

abbrev Bytes := List Nat

inductive Msg where
  | val (b : Bytes)      -- fresh copy
  | view (len : Nat)     -- rawFrame[:len]
deriving Repr, DecidableEq

/-- the bytes a consumer sees when it reads `m` while the flush array holds `raw` -/
def content (raw : Bytes) : Msg → Bytes
  | .val b => b
  | .view n => raw.take n

/-- one consumer (subscriber / destination) -/
structure Cons where
  queue : List Msg := []      -- handed on, not yet read; oldest first
  out : List Bytes := []      -- contents AS READ, oldest first
  handed : List Bytes := []   -- ghost: the content each accepted message had at hand-off
deriving Repr

def Cons.deliver (c : Cons) (m : Msg) (now : Bytes) : Cons :=
  { c with queue := c.queue ++ [m], handed := c.handed ++ [now] }

/-- the consumer reads its oldest message (no-op on an empty queue) -/
def Cons.read (c : Cons) (raw : Bytes) : Cons :=
  match c.queue with
  | [] => c
  | m :: q => { c with queue := q, out := c.out ++ [content raw m] }

structure Cfg where
  max : Nat                 -- maxFrameBytes (vw: 1 024 000) / MaxFrameBytes (tcpconnect)
  copyOnFlush : Bool        -- true: today's code; false: `frame := rawFrame[:n]`
deriving Repr

structure St where
  acc : Bytes := []
  raw : Bytes := []
  cons : Nat → Cons := fun _ => {}

inductive Op where
  | write (chunk : Bytes)          -- reader goroutine appends what one Read returned
  | flush (accepting : List Nat)   -- idle timer fires; these consumers' queues take the message
  | read (i : Nat)                 -- consumer `i` looks at the bytes of its oldest message
deriving Repr

def step (cfg : Cfg) (s : St) : Op → St
  | .write ch => { s with acc := s.acc ++ ch }
  | .flush accepting =>
      let n := min s.acc.length cfg.max
      if n = 0 then { s with acc := [] }        -- Read gave 0 bytes (EOF, or max = 0): no message, Reset
      else
        let frame := s.acc.take n
        let m := if cfg.copyOnFlush then Msg.val frame else Msg.view n
        { acc := []
          raw := frame ++ s.raw.drop n             -- copy(rawFrame, …): overwrite the first n bytes
          cons := fun i => if i ∈ accepting then (s.cons i).deliver m frame else s.cons i }
  | .read i => { s with cons := fun j => if j = i then (s.cons j).read s.raw else s.cons j }

def runFrom (cfg : Cfg) (s : St) (ops : List Op) : St := ops.foldl (step cfg) s
def run (cfg : Cfg) (ops : List Op) : St := runFrom cfg {} ops

/-- the byte stream posted = all written chunks in order -/
def inputFrom (inp : Bytes) (ops : List Op) : Bytes :=
  ops.foldl (fun i op => match op with | .write ch => i ++ ch | _ => i) inp
def inputOf (ops : List Op) : Bytes := inputFrom [] ops

/-! ## Position bookkeeping (pure arithmetic, no heap): where each flush cuts the stream -/

/-- message = input[a, b), dropped beyond max = input[b, c) -/
structure Cut where
  a : Nat
  b : Nat
  c : Nat
deriving Repr, DecidableEq

structure Pos where
  written : Nat := 0                    -- bytes appended so far
  start : Nat := 0                      -- stream offset of the first byte of `acc`
  cuts : List (Cut × List Nat) := []    -- one per flush that produced a message, with who accepted
deriving Repr

def posStep (max : Nat) (p : Pos) : Op → Pos
  | .write ch => { p with written := p.written + ch.length }
  | .flush accepting =>
      let n := min (p.written - p.start) max
      if n = 0 then { p with start := p.written }
      else { p with start := p.written,
                    cuts := p.cuts ++ [({ a := p.start, b := p.start + n, c := p.written }, accepting)] }
  | .read _ => p

def posFrom (max : Nat) (p : Pos) (ops : List Op) : Pos := ops.foldl (posStep max) p
def posRun (max : Nat) (ops : List Op) : Pos := posFrom max {} ops

/-- the cuts of the messages consumer `i` accepted -/
def cutsOf (i : Nat) (cs : List (Cut × List Nat)) : List Cut :=
  (cs.filter (fun x => decide (i ∈ x.2))).map (·.1)

def slice (inp : Bytes) (a b : Nat) : Bytes := (inp.drop a).take (b - a)

def sliceOf (inp : Bytes) (x : Cut) : Bytes := slice inp x.a x.b

/-- cut points move forward: `lo ≤ a₁ ≤ b₁ ≤ a₂ ≤ b₂ ≤ … ≤ hi` -/
def Forward : Nat → List Cut → Nat → Prop
  | lo, [], hi => lo ≤ hi
  | lo, x :: r, hi => lo ≤ x.a ∧ x.a ≤ x.b ∧ Forward x.b r hi

/-- the cuts of ALL flushes tile the consumed part of the stream exactly: every message is non-empty
    and at most `max` long, the next message starts where the previous drop ends, and bytes are
    dropped only behind a message of full length `max` -/
def Tiles (max : Nat) : Nat → List Cut → Nat → Prop
  | lo, [], hi => lo = hi
  | lo, x :: r, hi => x.a = lo ∧ x.a < x.b ∧ x.b ≤ x.c ∧ x.b - x.a ≤ max ∧
      (x.b < x.c → x.b - x.a = max) ∧ Tiles max x.c r hi

/-! ## Message-oriented ingest (`handleWs.readPump`): `ReadMessage` returns a fresh slice per websocket
message, which is broadcast as one hub message (also when empty). No accumulation, no flush array. -/

namespace Msgq

inductive Op where
  | post (m : Bytes) (accepting : List Nat)
  | read (i : Nat)
deriving Repr

structure St where
  cons : Nat → Cons := fun _ => {}

def step (s : St) : Op → St
  | .post m accepting =>
      { cons := fun i => if i ∈ accepting then (s.cons i).deliver (.val m) m else s.cons i }
  | .read i => { cons := fun j => if j = i then (s.cons j).read [] else s.cons j }

def runFrom (s : St) (ops : List Op) : St := ops.foldl step s
def run (ops : List Op) : St := runFrom {} ops

/-- the messages posted that consumer `i`'s queue took, in posting order -/
def accepted (i : Nat) : List Op → List Bytes
  | [] => []
  | .post m a :: r => if i ∈ a then m :: accepted i r else accepted i r
  | .read _ :: r => accepted i r

end Msgq

end Flush
