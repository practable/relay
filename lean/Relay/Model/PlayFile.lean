/-!
# Model of `internal/file` play-file parsing (`ParseLine`, `Check`) — property C20

A play-file line is a Go string, i.e. a sequence of **bytes**.  The model works on
`List Char` where every character stands for one byte (Latin-1 view, `Wire.hexToChars`).
This is exact for the five fixed regular expressions of `regex.go`:

* their classes `\s = [\t\n\f\r ]`, `[a-zA-Z0-9.]`, `[0-9]`, `[0-9hmns.]`, `[-+a-zA-Z]`, `[+-]`
  and their literals `# [ ] < > | ' ,` are ASCII, and no byte of a multi-byte (or invalid)
  UTF-8 sequence is ASCII;
* `.` matches every rune except `\n` (an invalid byte is the rune U+FFFD of width 1), so
  `(.*)` is "all bytes up to the first `\n` byte";
* `[^']` matches every rune except `'` (newline included: Go's Perl flags contain `ClassNL`).

All five expressions are anchored with `^`; every `x*` in them is followed by something
disjoint from `x` (or by the end of the expression), so Go's leftmost-first backtracking
search finds exactly the greedy left-to-right scan; the only real backtracking is
`<(.*)>`, which ends at the **last** `>` before the first newline (`splitLast`).

`regexp.Compile` for USER-SUPPLIED patterns is a parameter `compiles : Str → Bool`.
`time.ParseDuration` (Go 1.23, incl. its float64 fraction arithmetic and its uint64
wrap-around) and `strconv.Atoi` are modelled below.
-/

namespace PlayFile

abbrev Str := List Char

/-! ## character classes -/

def isWs (c : Char) : Bool := c == '\t' || c == '\n' || c == '\x0c' || c == '\r' || c == ' '
def isDigit (c : Char) : Bool := decide (48 ≤ c.toNat) && decide (c.toNat ≤ 57)
def isUpper (c : Char) : Bool := decide (65 ≤ c.toNat) && decide (c.toNat ≤ 90)
def isLower (c : Char) : Bool := decide (97 ≤ c.toNat) && decide (c.toNat ≤ 122)
def isAlpha (c : Char) : Bool := isUpper c || isLower c
/-- `[a-zA-Z0-9.]` -/
def isDelayCh (c : Char) : Bool := isAlpha c || isDigit c || c == '.'
/-- `[0-9hmns\.]` -/
def isTimeoutCh (c : Char) : Bool := isDigit c || c == 'h' || c == 'm' || c == 'n' || c == 's' || c == '.'
/-- `[-+a-zA-Z]` -/
def isVerbCh (c : Char) : Bool := c == '-' || c == '+' || isAlpha c
/-- `[+-]` -/
def isPM (c : Char) : Bool := c == '+' || c == '-'
def isHash (c : Char) : Bool := c == '#'
/-- `.` -/
def notNL (c : Char) : Bool := c != '\n'
/-- `[^']` -/
def notQuote (c : Char) : Bool := c != '\''

/-- `(.*)` at the end of an expression: everything up to the first newline -/
def dotStar (s : Str) : Str := s.takeWhile notNL

/-! ## IEEE-754 binary64 arithmetic, as far as `time.ParseDuration` uses it

A finite non-negative double is `m · 2^e`; `round` is round-to-nearest-even of a positive
rational to 53 significant bits with gradual underflow (exponent ≥ −1074) and overflow to
`+Inf`.  Only `float64(uint64)`, `*`, `/` and truncation to `uint64` of non-negative values
occur; NaN cannot arise (never `Inf·0`, `0/0`, `Inf/Inf`). -/

inductive Dbl where
  | fin (m : Nat) (e : Int)
  | inf
deriving Repr, DecidableEq

namespace Dbl

/-- `n/d · 2^(-e)` as a fraction -/
def scaled (n d : Nat) (e : Int) : Nat × Nat :=
  if e ≥ 0 then (n, d * 2 ^ e.toNat) else (n * 2 ^ (-e).toNat, d)

def round (n d : Nat) : Dbl :=
  if n = 0 then .fin 0 0
  else if d = 0 then .inf
  else
    let e0 : Int := (Nat.log2 n : Int) - (Nat.log2 d : Int) - 52
    let s0 := scaled n d e0
    let e1 : Int := if s0.1 / s0.2 ≥ 2 ^ 53 then e0 + 1 else if s0.1 / s0.2 < 2 ^ 52 then e0 - 1 else e0
    let e : Int := if e1 < -1074 then -1074 else e1
    let s := scaled n d e
    let q := s.1 / s.2
    let r := s.1 % s.2
    let m := if 2 * r > s.2 ∨ (2 * r = s.2 ∧ q % 2 = 1) then q + 1 else q
    if e ≥ 0 ∧ m * 2 ^ e.toNat ≥ 2 ^ 1024 then .inf else .fin m e

def ofNat (n : Nat) : Dbl := round n 1

def mul : Dbl → Dbl → Dbl
  | .fin m1 e1, .fin m2 e2 =>
    let e := e1 + e2
    if e ≥ 0 then round (m1 * m2 * 2 ^ e.toNat) 1 else round (m1 * m2) (2 ^ (-e).toNat)
  | _, _ => .inf

/-- `a / b` for finite `a` -/
def div : Dbl → Dbl → Dbl
  | .fin m1 e1, .fin m2 e2 =>
    let e := e1 - e2
    if e ≥ 0 then round (m1 * 2 ^ e.toNat) m2 else round m1 (m2 * 2 ^ (-e).toNat)
  | .fin _ _, .inf => .fin 0 0
  | .inf, _ => .inf

/-- `uint64(x)` for `0 ≤ x < 2^64` (always the case where it is used: the value is below the unit) -/
def trunc : Dbl → Nat
  | .fin m e => if e ≥ 0 then m * 2 ^ e.toNat else m / 2 ^ (-e).toNat
  | .inf => 0

def one : Dbl := .fin 1 0
def ten : Dbl := .fin 10 0

end Dbl

/-! ## `time.ParseDuration` -/

def two63 : Nat := 9223372036854775808
def two64 : Nat := 18446744073709551616

def digitVal (c : Char) : Nat := c.toNat - 48

/-- `leadingInt`: consumes `[0-9]*`; `none` = overflow error -/
def leadingInt : Nat → Str → Option (Nat × Str)
  | x, [] => some (x, [])
  | x, c :: r =>
    if isDigit c then
      if x > two63 / 10 then none
      else if x * 10 + digitVal c > two63 then none
      else leadingInt (x * 10 + digitVal c) r
    else some (x, c :: r)

/-- `leadingFraction`: consumes `[0-9]*`, stops accumulating on overflow; returns the
    accumulated integer, the float64 `scale` (multiplied by 10 per accumulated digit) and the rest -/
def leadingFraction : Nat → Dbl → Bool → Str → Nat × Dbl × Str
  | x, sc, _, [] => (x, sc, [])
  | x, sc, ovf, c :: r =>
    if isDigit c then
      if ovf then leadingFraction x sc true r
      else if x > (two63 - 1) / 10 then leadingFraction x sc true r
      else if x * 10 + digitVal c > two63 then leadingFraction x sc true r
      else leadingFraction (x * 10 + digitVal c) (Dbl.mul sc Dbl.ten) false r
    else (x, sc, c :: r)

/-- bytes of the unit names of `unitMap` (`µ` = C2 B5, `μ` = CE BC in UTF-8) -/
def unitOf (u : Str) : Option Nat :=
  if u = ['n', 's'] then some 1
  else if u = ['u', 's'] then some 1000
  else if u = [Char.ofNat 0xC2, Char.ofNat 0xB5, 's'] then some 1000
  else if u = [Char.ofNat 0xCE, Char.ofNat 0xBC, 's'] then some 1000
  else if u = ['m', 's'] then some 1000000
  else if u = ['s'] then some 1000000000
  else if u = ['m'] then some 60000000000
  else if u = ['h'] then some 3600000000000
  else none

/-- `c == '.' || '0' <= c && c <= '9'` -/
def isNumCh (c : Char) : Bool := c == '.' || isDigit c
def isUnitCh (c : Char) : Bool := !isNumCh c

/-- the optional `(\.[0-9]*)?` part: fraction value, scale, "consumed a digit", rest -/
def fracPart (s1 : Str) : Nat × Dbl × Bool × Str :=
  match s1 with
  | '.' :: r =>
    let fr := leadingFraction 0 Dbl.one false r
    (fr.1, fr.2.1, fr.2.2.length != r.length, fr.2.2)
  | _ => (0, Dbl.one, false, s1)

/-- one iteration of the `for s != ""` loop: value (already in ns) of one `number unit`
    term and the rest; `none` = any of the `return 0, errors.New(...)` -/
def durTerm (s : Str) : Option (Nat × Str) :=
  match s with
  | [] => none
  | c :: _ =>
    if !isNumCh c then none
    else
      match leadingInt 0 s with
      | none => none
      | some (v, s1) =>
        let pre := s1.length != s.length
        let fp := fracPart s1
        let f := fp.1
        let scale := fp.2.1
        let post := fp.2.2.1
        let s2 := fp.2.2.2
        if !pre && !post then none
        else
          let u := s2.takeWhile isUnitCh
          let s3 := s2.dropWhile isUnitCh
          if u = [] then none
          else
            match unitOf u with
            | none => none
            | some unit =>
              if v > two63 / unit then none
              else if f > 0 then
                let v2 := v * unit + Dbl.trunc (Dbl.mul (Dbl.ofNat f) (Dbl.div (Dbl.ofNat unit) scale))
                if v2 > two63 then none else some (v2, s3)
              else some (v * unit, s3)

/-- the loop; `d += v` is uint64 addition (it can wrap: `2^63 + 2^63 = 0`, as Go does).
    The fuel is the length of the input; every iteration consumes at least one byte
    (`durTerm_shrinks` in Lemmas/PlayFile.lean; `durLoop_fuel` in Props/C20.lean), so the fuel never runs out. -/
def durLoop : Nat → Str → Nat → Option Nat
  | _, [], d => some d
  | 0, _ :: _, _ => none
  | n + 1, c :: r, d =>
    match durTerm (c :: r) with
    | none => none
    | some (v, rest) =>
      let d' := (d + v) % two64
      if d' > two63 then none else durLoop n rest d'

def splitSign (s : Str) : Bool × Str :=
  match s with
  | '-' :: r => (true, r)
  | '+' :: r => (false, r)
  | _ => (false, s)

/-- `time.ParseDuration`: nanoseconds, `none` = error -/
def parseDuration (s0 : Str) : Option Int :=
  let neg := (splitSign s0).1
  let s := (splitSign s0).2
  if s = ['0'] then some 0
  else if s = [] then none
  else
    match durLoop s.length s 0 with
    | none => none
    | some d =>
      if neg then some (-(d : Int))
      else if d > two63 - 1 then none
      else some (d : Int)

/-! ## `strconv.Atoi` (64-bit `int`) -/

/-- value of a digit string (core's `ofDigitChars`: `foldl (fun a c => 10 * a + (c.toNat - 48)) 0`) -/
def digitsVal (ds : Str) : Nat := Nat.ofDigitChars 10 ds 0

def atoi (s : Str) : Option Int :=
  let neg := (splitSign s).1
  let ds := (splitSign s).2
  if ds = [] then none
  else if !ds.all isDigit then none
  else
    let n := digitsVal ds
    if neg then (if n > two63 then none else some (-(n : Int)))
    else if n > two63 - 1 then none
    else some (n : Int)

/-! ## the five fixed expressions as scanners

Every expression is a composition of three primitives: `takeWhile`/`dropWhile class`
(a greedy `x*`), `expect class c` (`x*` followed by the literal `c`) and `splitLast`
(the one place where Go's matcher really backtracks). -/

/-- `p*c`: skip the class, then the literal must follow; the rest after the literal -/
def expect (p : Char → Bool) (c : Char) (s : Str) : Option Str :=
  match s.dropWhile p with
  | [] => none
  | x :: r => if x = c then some r else none

/-- `^\s*\#+([+-]*)\s*(.*)` → (group 1, group 2) -/
def scanComment (l : Str) : Option (Str × Str) :=
  (expect isWs '#' l).map fun r =>
    let r1 := r.dropWhile isHash
    (r1.takeWhile isPM, dotStar ((r1.dropWhile isPM).dropWhile isWs))

/-- `^\s*\[\s*([a-zA-Z0-9.]*)\s*]\s*(.*)` → (group 1, group 2) -/
def scanDelay (l : Str) : Option (Str × Str) :=
  (expect isWs '[' l).bind fun r =>
    let r1 := r.dropWhile isWs
    (expect isWs ']' (r1.dropWhile isDelayCh)).map fun r3 =>
      (r1.takeWhile isDelayCh, dotStar (r3.dropWhile isWs))

/-- split at the last occurrence of `c`: (before, after) -/
def splitLast (c : Char) : Str → Option (Str × Str)
  | [] => none
  | x :: xs =>
    match splitLast c xs with
    | some (a, b) => some (x :: a, b)
    | none => if x = c then some ([], xs) else none

/-- `^\s*<(.*)>\s*(.*)` → (group 1, group 2): `.*` cannot cross a newline and is greedy,
    so group 1 ends at the last `>` of the text between `<` and the first newline -/
def scanCond (l : Str) : Option (Str × Str) :=
  (expect isWs '<' l).bind fun r =>
    (splitLast '>' (r.takeWhile notNL)).map fun ia =>
      (ia.1, dotStar ((ia.2 ++ r.dropWhile notNL).dropWhile isWs))

/-- `^\s*\'([^']*)\'\s*,\s*([0-9]*)\s*,\s*([0-9hmns\.]*)\s*` → groups 1, 2, 3
    (not anchored at the end: anything may follow) -/
def scanCondArgs (a : Str) : Option (Str × Str × Str) :=
  (expect isWs '\'' a).bind fun r =>
    (expect notQuote '\'' r).bind fun r1 =>
      (expect isWs ',' r1).bind fun r2 =>
        let r3 := r2.dropWhile isWs
        (expect isWs ',' (r3.dropWhile isDigit)).map fun r4 =>
          (r.takeWhile notQuote, r3.takeWhile isDigit, (r4.dropWhile isWs).takeWhile isTimeoutCh)

/-- `^\s*\|\s*([-+a-zA-Z]+)\s*\>\s*(.*)` → (group 1, group 2) -/
def scanFilter (l : Str) : Option (Str × Str) :=
  (expect isWs '|' l).bind fun r =>
    let r1 := r.dropWhile isWs
    if r1.takeWhile isVerbCh = [] then none
    else
      (expect isWs '>' (r1.dropWhile isVerbCh)).map fun r2 =>
        (r1.takeWhile isVerbCh, dotStar (r2.dropWhile isWs))

/-! ## `ParseLine` -/

inductive Verb where
  | accept | deny | reset
deriving Repr, DecidableEq

/-- which `return Error{…}` of `ParseLine` -/
inductive ErrKind where
  | delayFormat      -- "unknown delay time format"
  | condArgs         -- "malformed condition command: …" (argument expression did not match)
  | condRegexp       -- first argument did not compile
  | condCount        -- second argument not an int
  | condTimeout      -- third argument not a duration
  | filterVerb       -- first argument not one of + - a d r accept deny reset
  | filterRegexp     -- last argument did not compile
deriving Repr, DecidableEq

structure Cond where
  pattern : Str
  count : Int
  timeout : Int
deriving Repr, DecidableEq

inductive Parsed where
  | comment (echo : Bool) (msg : Str)
  | wait (delay : Int)
  | send (msg : Str) (delay : Int) (cond : Option Cond)
  | filter (verb : Verb) (pattern : Option Str)
  | error (k : ErrKind)
deriving Repr, DecidableEq

def toLowerCh (c : Char) : Char := if isUpper c then Char.ofNat (c.toNat + 32) else c

/-- the `switch strings.ToLower(args[1])` -/
def verbOf (v : Str) : Option Verb :=
  let w := v.map toLowerCh
  if w = ['-'] ∨ w = ['d'] ∨ w = ['d', 'e', 'n', 'y'] then some .deny
  else if w = ['+'] ∨ w = ['a'] ∨ w = ['a', 'c', 'c', 'e', 'p', 't'] then some .accept
  else if w = ['r'] ∨ w = ['r', 'e', 's', 'e', 't'] then some .reset
  else none

def parseDelay (arg msg : Str) : Parsed :=
  match (if arg.length > 0 then parseDuration arg else some 0) with
  | none => .error .delayFormat
  | some t => if msg.length > 0 then .send msg t none else .wait t

def parseCond (compiles : Str → Bool) (inner msg : Str) : Parsed :=
  match scanCondArgs inner with
  | none => .error .condArgs
  | some (pat, cnt, tmo) =>
    if !compiles pat then .error .condRegexp
    else
      match atoi cnt with
      | none => .error .condCount
      | some n =>
        match parseDuration tmo with
        | none => .error .condTimeout
        | some d => .send msg 0 (some { pattern := pat, count := n, timeout := d })

def parseFilter (compiles : Str → Bool) (verb arg : Str) : Parsed :=
  match verbOf verb with
  | none => .error .filterVerb
  | some .reset => .filter .reset none
  | some v => if compiles arg then .filter v (some arg) else .error .filterRegexp

/-- `ParseLine`: the cascade comment → delay → condition → filter → plain send.
    There is no panic outcome: every index expression in the Go function is guarded
    (`FindStringSubmatch` after a successful `MatchString` returns all groups; the one
    unguarded use, `care.FindStringSubmatch`, is followed by `len(args) < 4`). -/
def parseLine (compiles : Str → Bool) (line : Str) : Parsed :=
  match scanComment line with
  | some (pm, msg) => .comment (pm == ['+']) msg
  | none =>
    match scanDelay line with
    | some (arg, msg) => parseDelay arg msg
    | none =>
      match scanCond line with
      | some (inner, msg) => parseCond compiles inner msg
      | none =>
        match scanFilter line with
        | some (verb, arg) => parseFilter compiles verb arg
        | none => .send line 0 none

/-- the (at most one) string `ParseLine` hands to `regexp.Compile` for this line -/
def wanted (line : Str) : Option Str :=
  match scanComment line with
  | some _ => none
  | none =>
    match scanDelay line with
    | some _ => none
    | none =>
      match scanCond line with
      | some (inner, _) => (scanCondArgs inner).map (·.1)
      | none =>
        match scanFilter line with
        | some (verb, arg) =>
          match verbOf verb with
          | some .accept => some arg
          | some .deny => some arg
          | _ => none
        | none => none

/-! ## `Check` -/

def isError : Parsed → Bool
  | .error _ => true
  | _ => false

/-- `Check`: the error entries in order, and whether `err != nil` -/
def check (ps : List Parsed) : List ErrKind × Bool :=
  let errs := ps.filterMap (fun p => match p with | .error k => some k | _ => none)
  (errs, !errs.isEmpty)

def checkLines (compiles : Str → Bool) (lines : List Str) : List ErrKind × Bool :=
  check (lines.map (parseLine compiles))

/-! ## rendering commands back to play-file text (canonical spacing) -/

/-- decimal digits of a natural number -/
def natDigits (n : Nat) : Str := Nat.toDigits 10 n

/-- a duration in canonical text: `0` → `0s`-free form `0ns`; always `<n>ns` -/
def renderDur (d : Int) : Str := natDigits d.toNat ++ ['n', 's']

def renderVerb : Verb → Str
  | .accept => ['+']
  | .deny => ['-']
  | .reset => ['r']

/-- none of the four command expressions matches: the text is a plain message -/
def isPlain (msg : Str) : Bool :=
  (scanComment msg).isNone && (scanDelay msg).isNone && (scanCond msg).isNone && (scanFilter msg).isNone

/-- `render` of a parsed command (errors have no text): one canonical spelling per command.
    A message that would itself be read as a command (it starts with `#`, `[`, `<…>`, `|…>`)
    or that has a delay is written behind a `[…]` prefix, as the README advises. -/
def render : Parsed → Str
  | .comment echo msg => '#' :: (if echo then '+' else '-') :: ' ' :: msg
  | .wait d => '[' :: (renderDur d ++ [']'])
  | .send msg d none =>
      if d = 0 ∧ isPlain msg = true then msg
      else '[' :: ((if d = 0 then [] else renderDur d) ++ ']' :: ' ' :: msg)
  | .send msg _ (some c) =>
      '<' :: '\'' :: (c.pattern ++ '\'' :: ',' :: (natDigits c.count.toNat ++ ',' :: (renderDur c.timeout
        ++ '>' :: ' ' :: msg)))
  | .filter .reset _ => ['|', 'r', '>']
  | .filter .accept p => '|' :: '+' :: '>' :: ' ' :: p.getD []
  | .filter .deny p => '|' :: '-' :: '>' :: ' ' :: p.getD []
  | .error _ => []

end PlayFile
