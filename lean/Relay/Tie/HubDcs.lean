import Relay.Tie.HubE2E
import Relay.Tie.ChanMap

/-!
# End to end: the hub's cancel bookkeeping (`Hub.dcs`, the "deny channel store"), over whole histories

A booking is cancelled by `dcs.DeleteAndCloseParent(bookingID)`, which closes the `denied` channel of every client
recorded under that booking; each connection's goroutines watch their `denied` channel and shut the connection
down. Whether a cancellation reaches every live connection of the booking — and whether a connection that has left
the hub leaves something behind in the store — depends on the store's content being exactly the set of filed
clients. That is proved here for the TRANSLATED code (`Gen.crossbar.Hub.run_register / run_unregister /
run_broadcast` calling `Gen.chanmap.Store.Add / DeleteChild`), in the composed system `sysRun` of
`Relay/Tie/HubE2E.lean`, for every history satisfying the caller discipline `DiscD`, every family of iteration orders
that are permutations, every capacity assignment.

How: the invariant `Tracks h m` (a state `m` of the hand model `Relay/Model/ChanMap.lean` is related to `h.dcs` by
`TieChanMap.R`, and its bindings are exactly the filed clients with a booking id) is kept by `run_register`, by `remove`
and hence by the eviction loop of `run_broadcast`, through the step theorems of `Relay/Tie/ChanMap.lean`; no generated
code is unfolded here. The `e2e_…` theorems read it off the Go store.

The only assumptions are `DiscD` (about `serveWs`, see there — note its clause about `unregister`, without which the
statements are FALSE: `Demo.bad2`) and, for the histories, `(ws i).OrdPOk`; `OrdOk` is needed only for the world in
which `DeleteAndCloseParent` runs (the hub's own steps never range over a string-keyed map).
-/

namespace TieHubDcs
open Gen.crossbar TieHub TieHubE2E ChanMap

/-- the binding `Hub.run` asks the store to record at a registration:
    `h.dcs.Add(client.bookingID, client.name, client.denied)` -/
def entOf (c : Client) : Ent := { p := c.bookingID, c := c.name, ch := c.denied }

/-! ## the invariant: the store records exactly the filed clients that have a booking id -/

/-- facts about the clients registered so far that the discipline `DiscD` provides -/
structure NamesOk (reg : List Client) : Prop where
  ne : ∀ a ∈ reg, a.name ≠ "" ∧ a.denied ≠ 0
  name_inj : ∀ a ∈ reg, ∀ b ∈ reg, a.name = b.name → a = b
  denied_inj : ∀ a ∈ reg, ∀ b ∈ reg, a.denied = b.denied → a = b

structure Tracks (h : Hub) (m : St) : Prop where
  rel : TieChanMap.R m h.dcs
  ents : ∀ e, e ∈ m.ents ↔ ∃ x, filed h x.topic x ∧ x.bookingID ≠ "" ∧ e = entOf x
  par : ∀ c p, KV.lookup m.parentOf c = some p ↔ ∃ x, filed h x.topic x ∧ x.bookingID ≠ "" ∧ x.name = c ∧ x.bookingID = p

theorem tracks_init : Tracks (default : Hub) {} :=
  have nobody (Q : Client → Prop) : ¬ ∃ x, filed (default : Hub) x.topic x ∧ x.bookingID ≠ "" ∧ Q x :=
    fun ⟨_, hf, _⟩ => nomatch hf
  { rel := TieChanMap.R_init
    ents := fun _ => ⟨nofun, fun hx => (nobody _ hx).elim⟩
    par := fun _ _ => ⟨nofun, fun hx => (nobody _ hx).elim⟩ }

theorem Tracks.congr {h h' : Hub} {m : St} (ht : Tracks h m) (hrel : TieChanMap.R m h'.dcs)
    (hS : ∀ x : Client, x.bookingID ≠ "" → (filed h' x.topic x ↔ filed h x.topic x)) : Tracks h' m :=
  have same (Q : Client → Prop) : (∃ x, filed h x.topic x ∧ x.bookingID ≠ "" ∧ Q x) ↔
      ∃ x, filed h' x.topic x ∧ x.bookingID ≠ "" ∧ Q x :=
    exists_congr fun x => ⟨fun ⟨hf, hb, hq⟩ => ⟨(hS x hb).2 hf, hb, hq⟩, fun ⟨hf, hb, hq⟩ => ⟨(hS x hb).1 hf, hb, hq⟩⟩
  ⟨hrel, fun e => (ht.ents e).trans (same _), fun c p => (ht.par c p).trans (same _)⟩

theorem tracks_register (w : Go.World) (h : Hub) (reg : List Client) (c : Client) (m : St)
    (hfr : ∀ x, filed h x.topic x → x ∈ reg) (hnew : ∀ c' ∈ reg, c'.name ≠ c.name)
    (hn : c.name ≠ "") (hd : c.denied ≠ 0) (ht : Tracks h m) :
    Tracks (Hub.run_register w h c) (step m (.add c.bookingID c.name c.denied)).1 := by
  have hfiled : ∀ x, filed (Hub.run_register w h c) x.topic x ↔ filed h x.topic x ∨ x = c :=
    fun x => (register_filed w h c x.topic x).trans (or_congr_right (and_iff_right_of_imp (congrArg Client.topic)))
  have hrel : TieChanMap.R (step m (.add c.bookingID c.name c.denied)).1 (Hub.run_register w h c).dcs := by
    rw [register_dcs]
    exact (TieChanMap.add_step w m h.dcs c.bookingID c.name c.denied ht.rel hd).rel (step_add_ne_panic _ _ _ _)
  by_cases hp : c.bookingID = ""
  · -- `Add` answers "no parent"; `c` is filed now, but has no booking id
    rw [step_add_noparent m _ _ _ hp] at hrel ⊢
    exact ht.congr hrel fun x hb =>
      ⟨fun hf => ((hfiled x).1 hf).resolve_right (fun e => hb (e ▸ hp)), fun hf => (hfiled x).2 (Or.inl hf)⟩
  · rw [step_add_ok m _ _ _ hp hn] at hrel ⊢
    refine ⟨hrel, ?_, ?_⟩
    · intro e
      rw [List.mem_cons, mem_dropKey, ht.ents e]
      simp only [hfiled]
      constructor
      · rintro (rfl | ⟨⟨x, hf, hb, he⟩, _⟩)
        · exact ⟨c, Or.inr rfl, hp, rfl⟩
        · exact ⟨x, Or.inl hf, hb, he⟩
      · rintro ⟨x, hf | rfl, hb, rfl⟩
        · exact Or.inr ⟨⟨x, hf, hb, rfl⟩, fun hc => hnew x (hfr x hf) hc.2⟩
        · exact Or.inl rfl
    · intro n p
      rw [KV.lookup_insert]
      simp only [hfiled]
      constructor
      · intro hl
        split at hl
        · rename_i hnn; exact ⟨c, Or.inr rfl, hp, hnn, Option.some.inj hl⟩
        · obtain ⟨x, hf, hb, he⟩ := (ht.par n p).1 hl
          exact ⟨x, Or.inl hf, hb, he⟩
      · rintro ⟨x, hf | rfl, hb, rfl, rfl⟩
        · rw [if_neg (Ne.symm (hnew x (hfr x hf)))]
          exact (ht.par _ _).2 ⟨x, hf, hb, rfl, rfl⟩
        · rw [if_pos rfl]

/-- `hown`: `Hub.remove` deletes the store entry BY NAME, whether or not `c` is filed or even registered; so no OTHER
    registered client may carry `c`'s name -/
theorem tracks_remove (w : Go.World) (h : Hub) (reg : List Client) (c : Client) (m : St)
    (hfr : ∀ x, filed h x.topic x → x ∈ reg) (hnm : NamesOk reg)
    (hown : ∀ c' ∈ reg, c'.name = c.name → c' = c) (ht : Tracks h m) :
    Tracks (Hub.remove w h c).1 (step m (.delChild c.name false)).1 := by
  have hfiled : ∀ x, filed (Hub.remove w h c).1 x.topic x ↔ filed h x.topic x ∧ x ≠ c :=
    fun x => (remove_filed w h c x.topic x).trans (and_congr_right' (not_congr (and_iff_right_of_imp (congrArg Client.topic))))
  have hrel : TieChanMap.R (step m (.delChild c.name false)).1 (Hub.remove w h c).1.dcs := by
    rw [remove_dcs]
    exact (TieChanMap.DeleteChild_step w m h.dcs c.name ht.rel).rel (step_delChild_ne_panic _ _)
  by_cases hn : c.name = ""
  · -- nothing happens to the store, and `c` was not filed (filed clients have names)
    have hnf : ∀ x, filed h x.topic x → x ≠ c := by
      intro x hf e; subst e; exact (hnm.ne x (hfr x hf)).1 hn
    rw [step_delChild_nochild m _ hn] at hrel ⊢
    exact ht.congr hrel fun x _ => ⟨fun hf => ((hfiled x).1 hf).1, fun hf => (hfiled x).2 ⟨hf, hnf x hf⟩⟩
  · refine ⟨hrel, ?_, ?_⟩
    · intro e
      rw [step_delChild_mem m c.name hn e, ht.ents e]
      simp only [hfiled]
      constructor
      · rintro ⟨⟨x, hf, hb, rfl⟩, hnot⟩
        refine ⟨x, ⟨hf, fun hxc => hnot ?_⟩, hb, rfl⟩
        exact ⟨(ht.par _ _).2 ⟨x, hf, hb, hxc ▸ rfl, rfl⟩, hxc ▸ rfl⟩
      · rintro ⟨x, ⟨hf, hxc⟩, hb, rfl⟩
        exact ⟨⟨x, hf, hb, rfl⟩, fun hc => hxc (hown x (hfr x hf) hc.2)⟩
    · intro n p
      rw [step_delChild_parentOf m c.name false hn (step_delChild_ne_panic m c.name), KV.lookup_erase]
      simp only [hfiled]
      constructor
      · intro hl
        split at hl
        · cases hl
        · rename_i hnn
          obtain ⟨x, hf, hb, rfl, e⟩ := (ht.par n p).1 hl
          exact ⟨x, ⟨hf, fun hxc => hnn (hxc ▸ rfl)⟩, hb, rfl, e⟩
      · rintro ⟨x, ⟨hf, hxc⟩, hb, rfl, rfl⟩
        rw [if_neg fun e => hxc (hown x (hfr x hf) e.symm)]
        exact (ht.par _ _).2 ⟨x, hf, hb, rfl, rfl⟩

/-- the second loop of `run_broadcast` (`for _, client := range slow { h.remove(client) }`) -/
theorem tracks_evict (w : Go.World) (reg : List Client) (hnm : NamesOk reg) (cs : List Client) (hcs : ∀ c ∈ cs, c ∈ reg)
    (h : Hub) (fx : List Go.Chan) (hfr : ∀ x, filed h x.topic x → x ∈ reg) (m : St) (ht : Tracks h m) :
    ∃ m', Tracks (evict w cs (h, fx)).1 m' := by
  induction cs generalizing h fx m with
  | nil => exact ⟨m, ht⟩
  | cons a cs ih =>
    rw [evict_cons]
    have ha := hcs a List.mem_cons_self
    refine ih (fun c hc => hcs c (List.mem_cons_of_mem _ hc)) _ _ ?_ _
      (tracks_remove w h reg a m hfr hnm (fun c' hc' e => hnm.name_inj c' hc' a ha e) ht)
    intro x hf
    exact hfr x ((remove_filed w h a x.topic x).1 hf).1

/-! ## the discipline of the caller (ASSUMPTION about `serveWs`) -/

def freshD (prev : List Client) (c : Client) : Prop :=
  c.name ≠ "" ∧ c.denied ≠ 0 ∧ ∀ c' ∈ prev, c'.name ≠ c.name ∧ c'.denied ≠ c.denied

def ownName (prev : List Client) (c : Client) : Prop := ∀ c' ∈ prev, c'.name = c.name → c' = c

instance (prev : List Client) (c : Client) : Decidable (freshD prev c) := by unfold freshD; infer_instance
instance (prev : List Client) (c : Client) : Decidable (ownName prev c) := by unfold ownName; infer_instance

/-- the clauses of `DiscD` beyond `Disc`, given the clients registered so far -/
def DiscNFrom : List Client → List SEv → Prop
  | _, [] => True
  | prev, .register c :: es => freshD prev c ∧ DiscNFrom (prev ++ [c]) es
  | prev, .unregister c :: es => ownName prev c ∧ DiscNFrom prev es
  | prev, .inbound _ :: es => DiscNFrom prev es
  | prev, .drain _ _ :: es => DiscNFrom prev es

/-- **ASSUMPTION about the caller** (`serveWs`). `Disc` of `Relay/Tie/HubE2E.lean` (every `register` registers a new
    client object with a new `send` channel), and additionally:
    * every registered client has a non-empty `name` (`uuid.New().String()`) and a real `denied` channel
      (`make(chan struct{})`, not nil);
    * the names of the registered clients are pairwise different, and so are their `denied` channels;
    * an `unregister c` never concerns a client object that merely shares its name with a DIFFERENT client
      registered before (the only `unregister` is `readPump`'s deferred `c.hub.unregister <- c`, for the client
      `serveWs` registered). Apart from that `unregister` is unconstrained: `c` may be filed or not, registered or
      not, unregistered repeatedly.
    `c.bookingID` is unconstrained (it may be empty: then `Store.Add` answers "no parent" and records nothing).
    `inbound` (any sender) and `drain` are unconstrained.
    NOT covered: the client that `statsClient` registers on the same hub has a nil `denied` channel (and no booking
    id, so that `Store.Add` answers "no parent" for it). -/
def DiscD (es : List SEv) : Prop := Disc es ∧ DiscNFrom [] es

instance DiscNFrom.dec : (prev : List Client) → (es : List SEv) → Decidable (DiscNFrom prev es)
  | _, [] => isTrue trivial
  | prev, .register c :: es =>
    have := DiscNFrom.dec (prev ++ [c]) es
    (inferInstance : Decidable (freshD prev c ∧ DiscNFrom (prev ++ [c]) es))
  | prev, .unregister c :: es =>
    have := DiscNFrom.dec prev es
    (inferInstance : Decidable (ownName prev c ∧ DiscNFrom prev es))
  | prev, .inbound _ :: es => DiscNFrom.dec prev es
  | prev, .drain _ _ :: es => DiscNFrom.dec prev es

instance (es : List SEv) : Decidable (DiscD es) := by unfold DiscD; infer_instance

/-- `DiscNFrom`'s clause for one event, with `s.registered` for `prev` -/
def StepOkD (s : Sys) : SEv → Prop
  | .register c => freshD s.registered c
  | .unregister c => ownName s.registered c
  | _ => True

theorem discNFrom_cons (s : Sys) (o : Go.World) (e : SEv) (es : List SEv) (h : DiscNFrom s.registered (e :: es)) :
    StepOkD s e ∧ DiscNFrom (sysStep o s e).registered es := by
  cases e with
  | register c => exact h
  | unregister c => exact h
  | _ => exact ⟨trivial, h⟩

theorem discNFrom_append (prev : List Client) (pre post : List SEv) (h : DiscNFrom prev (pre ++ post)) :
    DiscNFrom prev pre := by
  induction pre generalizing prev with
  | nil => trivial
  | cons e pre ih =>
    cases e with
    | register c => exact ⟨h.1, ih _ h.2⟩
    | unregister c => exact ⟨h.1, ih _ h.2⟩
    | _ => exact ih _ h

/-- the discipline is prefix closed, so the theorems below hold in every state a disciplined history passes through -/
theorem discD_prefix (pre post : List SEv) (h : DiscD (pre ++ post)) : DiscD pre :=
  ⟨disc_prefix pre post h.1, discNFrom_append [] pre post h.2⟩

theorem namesOk_snoc (reg : List Client) (c : Client) (h : NamesOk reg) (hf : freshD reg c) : NamesOk (reg ++ [c]) where
  ne := fun a ha => (List.mem_append.1 ha).elim (h.ne a) fun ha => List.mem_singleton.1 ha ▸ ⟨hf.1, hf.2.1⟩
  name_inj := SendQ.injOn_snoc (·.name) reg c h.name_inj fun a ha => (hf.2.2 a ha).1
  denied_inj := SendQ.injOn_snoc (·.denied) reg c h.denied_inj fun a ha => (hf.2.2 a ha).2

structure DInv (s : Sys) : Prop where
  inv : Inv s
  names : NamesOk s.registered
  store : ∃ m, Tracks s.h m

theorem dinv_init (cap : Go.Chan → Nat) : DInv (init cap) where
  inv := inv_init cap
  names := { ne := nofun, name_inj := nofun, denied_inj := nofun }
  store := ⟨{}, tracks_init⟩

theorem step_dinv (o : Go.World) (ho : o.OrdPOk) (s : Sys) (e : SEv) (hi : DInv s) (hok : StepOk s e) (hokd : StepOkD s e) :
    DInv (sysStep o s e) := by
  have hfr : ∀ x, filed s.h x.topic x → x ∈ s.registered := fun x hf => hi.inv.core.filed_reg _ x hf
  obtain ⟨m, ht⟩ := hi.store
  refine ⟨step_inv o ho s e hi.inv hok, ?_, ?_⟩
  · cases e with
    | register c => exact namesOk_snoc _ c hi.names hokd
    | _ => exact hi.names
  · cases e with
    | register c =>
      exact ⟨_, tracks_register (worldOf o s) s.h s.registered c m hfr (fun c' hc' => (hokd.2.2 c' hc').1) hokd.1 hokd.2.1 ht⟩
    | unregister c =>
      refine ⟨(step m (.delChild c.name false)).1, ?_⟩
      show Tracks (Hub.run_unregister (worldOf o s) s.h c).1 _
      rw [unregister_eq]
      exact tracks_remove (worldOf o s) s.h s.registered c m hfr hi.names hokd ht
    | inbound msg =>
      have hw := worldOf_ok o s ho
      show ∃ m', Tracks (Hub.run_broadcast (worldOf o s) s.h msg).1 m'
      rw [broadcast_hub]
      refine tracks_evict (worldOf o s) s.registered hi.names (slow (worldOf o s) s.h msg) ?_ s.h [] hfr m ht
      intro c hc
      exact hfr c (slow_filed (worldOf o s) hw s.h hi.inv.core.wf msg c hc)
    | drain ch k => exact ⟨m, ht⟩

theorem run_dinv (ws : Nat → Go.World) (hws : ∀ i, (ws i).OrdPOk) (es : List SEv) (i : Nat) (s : Sys) (hi : DInv s)
    (hd : DiscFrom s.registered es) (hdn : DiscNFrom s.registered es) : DInv (sysRun ws i s es) := by
  induction es generalizing i s with
  | nil => exact hi
  | cons e es ih =>
    obtain ⟨h1, h2⟩ := discFrom_cons s (ws i) e es hd
    obtain ⟨h3, h4⟩ := discNFrom_cons s (ws i) e es hdn
    exact ih (i + 1) _ (step_dinv (ws i) (hws i) s e hi h1 h3) h2 h4

theorem e2e_dinv (ws : Nat → Go.World) (hws : ∀ i, (ws i).OrdPOk) (cap : Go.Chan → Nat) (es : List SEv) (hd : DiscD es) :
    DInv (sysRun ws 0 (init cap) es) :=
  run_dinv ws hws es 0 (init cap) (dinv_init cap) hd.1 hd.2

/-! ## reading the invariant off the Go store -/

theorem tracks_perm (h : Hub) (reg : List Client) (m : St) (ht : Tracks h m)
    (hfr : ∀ x, filed h x.topic x → x ∈ reg) (hnd : reg.Nodup) (hnm : NamesOk reg) :
    m.ents.Perm ((reg.filter (fun c => decide (filed h c.topic c) && (c.bookingID != ""))).map entOf) := by
  refine (List.perm_ext_iff_of_nodup ht.rel.ents.nodup ?_).2 ?_
  · exact SendQ.nodup_map_of_injOn entOf (hnd.sublist List.filter_sublist) (fun _ hx => (List.mem_filter.1 hx).1)
      fun x hx y hy e => hnm.name_inj x hx y hy (congrArg Ent.c e)
  · intro e
    rw [ht.ents e, List.mem_map]
    simp only [List.mem_filter, Bool.and_eq_true, decide_eq_true_eq, bne_iff_ne, ne_eq]
    constructor
    · rintro ⟨x, hf, hb, he⟩; exact ⟨x, ⟨hfr x hf, hf, hb⟩, he.symm⟩
    · rintro ⟨x, ⟨_, hf, hb⟩, he⟩; exact ⟨x, hf, hb, he.symm⟩

theorem ofParent_perm (h : Hub) (reg : List Client) (m : St) (ht : Tracks h m)
    (hfr : ∀ x, filed h x.topic x → x ∈ reg) (hnd : reg.Nodup) (hnm : NamesOk reg) (b : String) (hb : b ≠ "") :
    (ofParent m.ents b).Perm ((reg.filter (fun c => decide (filed h c.topic c) && (c.bookingID == b))).map entOf) := by
  have := (tracks_perm h reg m ht hfr hnd hnm).filter (fun e => decide (e.p = b))
  rw [List.filter_map, List.filter_filter] at this
  refine this.trans (List.Perm.of_eq (congrArg _ (List.filter_congr fun c _ => ?_)))
  by_cases hc : c.bookingID = b
  · subst hc; simp [entOf, hb]
  · simp [entOf, hc]

section E2E
variable (ws : Nat → Go.World) (hws : ∀ i, (ws i).OrdPOk) (cap : Go.Chan → Nat) (es : List SEv) (hd : DiscD es)
include hws hd

local notation "fin" => sysRun ws 0 (init cap) es

/-- **1, content form: what the store holds is exactly the filed clients that have a booking id.**
    `dcs.ChildrenByParent[p][n]` is the channel `ch` iff some client filed in the hub has name `n`, booking id `p`
    (non-empty) and `denied` channel `ch`. -/
theorem e2e_dcs_content (p n : String) (ch : Go.Chan) :
    KV.lookup (Go.Map.get (fin).h.dcs.ChildrenByParent p) n = some ch ↔
      ∃ x, filed (fin).h x.topic x ∧ x.name = n ∧ x.bookingID = p ∧ p ≠ "" ∧ x.denied = ch := by
  obtain ⟨m, ht⟩ := (e2e_dinv ws hws cap es hd).store
  rw [ht.rel.lookup_iff, ht.ents]
  constructor
  · rintro ⟨x, hf, hb, he⟩
    injection he with h1 h2 h3
    exact ⟨x, hf, h2.symm, h1.symm, h1 ▸ hb, h3.symm⟩
  · rintro ⟨x, hf, h1, h2, h3, h4⟩
    refine ⟨x, hf, h2 ▸ h3, ?_⟩
    rw [← h1, ← h2, ← h4]; rfl

theorem filed_named (c : Client) (hc : c ∈ (fin).registered) (P : Client → Prop) :
    (∃ x, filed (fin).h x.topic x ∧ x.name = c.name ∧ P x) ↔ filed (fin).h c.topic c ∧ P c := by
  have hi := e2e_dinv ws hws cap es hd
  constructor
  · rintro ⟨x, hf, hn, hp⟩
    have : x = c := hi.names.name_inj x (hi.inv.core.filed_reg _ x hf) c hc hn
    exact this ▸ ⟨hf, hp⟩
  · rintro ⟨hf, hp⟩; exact ⟨c, hf, rfl, hp⟩

/-- **1. the store matches the hub**: for a registered client `c`, the store has child `c.name` under parent `p` with
    channel `ch` iff `c` is filed, `p` is its (non-empty) booking id and `ch` its own `denied` channel. So a filed
    client with a booking id is recorded with the channel its goroutines watch (a deny reaches it), a client with
    an empty booking id is not recorded, and a client that has left (unregister, eviction) leaves nothing behind. -/
theorem e2e_dcs_matches_filed (c : Client) (hc : c ∈ (fin).registered) (p : String) (ch : Go.Chan) :
    KV.lookup (Go.Map.get (fin).h.dcs.ChildrenByParent p) c.name = some ch ↔
      filed (fin).h c.topic c ∧ p = c.bookingID ∧ p ≠ "" ∧ ch = c.denied := by
  rw [e2e_dcs_content ws hws cap es hd, filed_named ws hws cap es hd c hc, @eq_comm _ p c.bookingID, @eq_comm _ ch c.denied]

/-- … the direction that matters for a deny, without the side condition: every filed client with a booking id is
    recorded under it, with its own `denied` channel -/
theorem e2e_filed_recorded (c : Client) (hf : filed (fin).h c.topic c) (hb : c.bookingID ≠ "") :
    KV.lookup (Go.Map.get (fin).h.dcs.ChildrenByParent c.bookingID) c.name = some c.denied :=
  (e2e_dcs_content ws hws cap es hd _ _ _).2 ⟨c, hf, rfl, rfl, hb, rfl⟩

/-- **1, model form**: the store is related (`TieChanMap.R`) to a model state whose bindings are, up to their
    order, the `(bookingID, name, denied)` of the registered clients that are filed and have a booking id -/
theorem e2e_dcs_model :
    ∃ m, TieChanMap.R m (fin).h.dcs ∧
      m.ents.Perm (((fin).registered.filter
        (fun c => decide (filed (fin).h c.topic c) && (c.bookingID != ""))).map entOf) := by
  have hi := e2e_dinv ws hws cap es hd
  obtain ⟨m, ht⟩ := hi.store
  exact ⟨m, ht.rel, tracks_perm _ _ m ht (fun x hf => hi.inv.core.filed_reg _ x hf) hi.inv.core.reg_nodup hi.names⟩

/-- **2, content form**: `dcs.ParentByChild[n] = p` iff some filed client has name `n` and (non-empty) booking id `p` -/
theorem e2e_parentByChild_content (n p : String) :
    KV.lookup (fin).h.dcs.ParentByChild n = some p ↔
      ∃ x, filed (fin).h x.topic x ∧ x.name = n ∧ x.bookingID = p ∧ p ≠ "" := by
  obtain ⟨m, ht⟩ := (e2e_dinv ws hws cap es hd).store
  rw [ht.rel.par n, ht.par]
  constructor
  · rintro ⟨x, hf, hb, h1, h2⟩; exact ⟨x, hf, h1, h2, h2 ▸ hb⟩
  · rintro ⟨x, hf, h1, h2, h3⟩; exact ⟨x, hf, h2 ▸ h3, h1, h2⟩

/-- **2. the reverse map matches the hub**: for a registered client `c`, `ParentByChild[c.name]` is `p` iff `c` is
    filed and `p` is its (non-empty) booking id -/
theorem e2e_parentByChild_matches' (c : Client) (hc : c ∈ (fin).registered) (p : String) :
    KV.lookup (fin).h.dcs.ParentByChild c.name = some p ↔ filed (fin).h c.topic c ∧ p = c.bookingID ∧ p ≠ "" := by
  rw [e2e_parentByChild_content ws hws cap es hd, filed_named ws hws cap es hd c hc, @eq_comm _ p c.bookingID]

theorem e2e_parentByChild_matches (c : Client) (hc : c ∈ (fin).registered) :
    KV.lookup (fin).h.dcs.ParentByChild c.name = some c.bookingID ↔ filed (fin).h c.topic c ∧ c.bookingID ≠ "" := by
  exact (e2e_parentByChild_matches' ws hws cap es hd c hc _).trans
    ⟨fun ⟨h1, _, h3⟩ => ⟨h1, h3⟩, fun ⟨h1, h3⟩ => ⟨h1, rfl, h3⟩⟩

/-- … and for a registered client that is not filed any more, or has no booking id, there is no entry at all -/
theorem e2e_parentByChild_none (c : Client) (hc : c ∈ (fin).registered)
    (h : ¬ (filed (fin).h c.topic c ∧ c.bookingID ≠ "")) : KV.lookup (fin).h.dcs.ParentByChild c.name = none := by
  refine Option.eq_none_iff_forall_ne_some.2 fun p hl => h ?_
  obtain ⟨h1, h2, h3⟩ := (e2e_parentByChild_matches' ws hws cap es hd c hc p).1 hl
  exact ⟨h1, h2 ▸ h3⟩

/-- **3. a deny closes exactly the booking's live connections.** `DeleteAndCloseParent(b)` on the store of any
    reachable state, with any iteration order: no error; the closed channels are, up to their order, the `denied`
    channels of the registered clients that are filed and have booking id `b` — each once (in Go: no "close of closed
    channel" panic); afterwards the store has no entry under `b`, the reverse map has none for those clients, and the
    other bookings are untouched. -/
theorem e2e_deny_closes_exactly_the_bookings_connections (w : Go.World) (hw : w.OrdOk) (b : String) (hb : b ≠ "") :
    (Gen.chanmap.Store.DeleteAndCloseParent w (fin).h.dcs b).1 = none ∧
    (Gen.chanmap.Store.DeleteAndCloseParent w (fin).h.dcs b).2.2.Perm
      (((fin).registered.filter (fun c => decide (filed (fin).h c.topic c) && (c.bookingID == b))).map (·.denied)) ∧
    (Gen.chanmap.Store.DeleteAndCloseParent w (fin).h.dcs b).2.2.Nodup ∧
    KV.lookup (Gen.chanmap.Store.DeleteAndCloseParent w (fin).h.dcs b).2.1.ChildrenByParent b = none ∧
    (∀ c, KV.lookup (Go.Map.get (Gen.chanmap.Store.DeleteAndCloseParent w (fin).h.dcs b).2.1.ChildrenByParent b) c = none) ∧
    (∀ p, p ≠ b → KV.lookup (Gen.chanmap.Store.DeleteAndCloseParent w (fin).h.dcs b).2.1.ChildrenByParent p
                    = KV.lookup (fin).h.dcs.ChildrenByParent p) ∧
    (∀ x, filed (fin).h x.topic x → x.bookingID = b →
        KV.lookup (Gen.chanmap.Store.DeleteAndCloseParent w (fin).h.dcs b).2.1.ParentByChild x.name = none) ∧
    (∀ n, (∀ x, filed (fin).h x.topic x → x.bookingID = b → x.name ≠ n) →
        KV.lookup (Gen.chanmap.Store.DeleteAndCloseParent w (fin).h.dcs b).2.1.ParentByChild n
          = KV.lookup (fin).h.dcs.ParentByChild n) := by
  have hi := e2e_dinv ws hws cap es hd
  obtain ⟨m, ht⟩ := hi.store
  rw [TieChanMap.DeleteAndCloseParent_eq]
  obtain ⟨herr, hfx, hcbp, hpbc, _⟩ := TieChanMap.parent_spec w hw m.ents m.parentOf _ ht.rel b hb true
  rw [if_pos rfl] at hfx
  have hperm := ofParent_perm (fin).h (fin).registered m ht (fun x hf => hi.inv.core.filed_reg _ x hf)
    hi.inv.core.reg_nodup hi.names b hb
  have hch := hfx.trans (by simpa [List.map_map, Function.comp_def, entOf] using hperm.map (·.ch))
  have hname : ∀ n, n ∈ (ofParent m.ents b).map (·.c) ↔ ∃ x, filed (fin).h x.topic x ∧ x.bookingID = b ∧ x.name = n := by
    intro n
    simp only [List.mem_map, mem_ofParent, ht.ents]
    constructor
    · rintro ⟨e, ⟨⟨x, hf, _, rfl⟩, hp⟩, rfl⟩; exact ⟨x, hf, hp, rfl⟩
    · rintro ⟨x, hf, hxb, rfl⟩; exact ⟨entOf x, ⟨⟨x, hf, hxb ▸ hb, rfl⟩, hxb⟩, rfl⟩
  refine ⟨herr, hch, hch.nodup_iff.2 ?_, by rw [hcbp, if_pos rfl], ?_, fun p hp => by rw [hcbp, if_neg (Ne.symm hp)], ?_, ?_⟩
  · exact SendQ.nodup_map_of_injOn (·.denied) (hi.inv.core.reg_nodup.sublist List.filter_sublist)
      (fun _ hx => (List.mem_filter.1 hx).1) hi.names.denied_inj
  · intro c; rw [Go.Map.get, hcbp, if_pos rfl]; rfl
  · intro x hf hxb
    rw [hpbc, if_pos ((hname _).2 ⟨x, hf, hxb, rfl⟩)]
  · intro n hn
    rw [hpbc, if_neg (fun hin => ?_)]
    obtain ⟨x, hf, hxb, e⟩ := (hname n).1 hin
    exact hn x hf hxb e

/-- … so a deny reaches every live connection made under the booking -/
theorem e2e_deny_reaches (w : Go.World) (hw : w.OrdOk) (c : Client) (hf : filed (fin).h c.topic c) (hb : c.bookingID ≠ "") :
    c.denied ∈ (Gen.chanmap.Store.DeleteAndCloseParent w (fin).h.dcs c.bookingID).2.2 := by
  have hi := e2e_dinv ws hws cap es hd
  refine (e2e_deny_closes_exactly_the_bookings_connections ws hws cap es hd w hw c.bookingID hb).2.1.mem_iff.2 ?_
  refine List.mem_map.2 ⟨c, List.mem_filter.2 ⟨hi.inv.core.filed_reg _ c hf, ?_⟩, rfl⟩
  simp only [Bool.and_eq_true, decide_eq_true_eq, beq_iff_eq, and_true]
  exact hf

/-- … and only those: every channel it closes is the `denied` channel of a client that is filed under this booking -/
theorem e2e_deny_only_live (w : Go.World) (hw : w.OrdOk) (b : String) (hb : b ≠ "") (ch : Go.Chan)
    (hch : ch ∈ (Gen.chanmap.Store.DeleteAndCloseParent w (fin).h.dcs b).2.2) :
    ∃ c ∈ (fin).registered, filed (fin).h c.topic c ∧ c.bookingID = b ∧ c.denied = ch := by
  have := (e2e_deny_closes_exactly_the_bookings_connections ws hws cap es hd w hw b hb).2.1.mem_iff.1 hch
  obtain ⟨c, hc, e⟩ := List.mem_map.1 this
  simp only [List.mem_filter, Bool.and_eq_true, decide_eq_true_eq, beq_iff_eq] at hc
  exact ⟨c, hc.1, hc.2.1, hc.2.2, e⟩

/-- **4. when everybody has left, nothing is left**: if no registered client is filed any more, the store is
    literally empty again — both maps, so in particular every lookup answers "absent" -/
theorem e2e_idle_store_empty (hidle : ∀ c ∈ (fin).registered, ¬ filed (fin).h c.topic c) :
    (fin).h.dcs.ChildrenByParent = [] ∧ (fin).h.dcs.ParentByChild = [] ∧
    (∀ p c, KV.lookup (Go.Map.get (fin).h.dcs.ChildrenByParent p) c = none) ∧
    (∀ c, KV.lookup (fin).h.dcs.ParentByChild c = none) := by
  have hi := e2e_dinv ws hws cap es hd
  obtain ⟨m, ht⟩ := hi.store
  have hnf : ∀ x, ¬ filed (fin).h x.topic x := fun x hf => hidle x (hi.inv.core.filed_reg _ x hf) hf
  -- by the two content theorems no lookup finds anything …
  have hpar : ∀ c, KV.lookup (fin).h.dcs.ParentByChild c = none := fun c =>
    Option.eq_none_iff_forall_ne_some.2 fun p hl =>
      ((e2e_parentByChild_content ws hws cap es hd c p).1 hl).elim fun x hx => hnf x hx.1
  have hin : ∀ p c, KV.lookup (Go.Map.get (fin).h.dcs.ChildrenByParent p) c = none := fun p c =>
    Option.eq_none_iff_forall_ne_some.2 fun ch hl =>
      ((e2e_dcs_content ws hws cap es hd p c ch).1 hl).elim fun x hx => hnf x hx.1
  -- … and an inner map, never empty, would answer to its first key
  have hcbp : ∀ p, KV.lookup (fin).h.dcs.ChildrenByParent p = none := by
    intro p
    cases hl : KV.lookup (fin).h.dcs.ChildrenByParent p with
    | none => rfl
    | some mm =>
      cases mm with
      | nil => exact absurd rfl (ht.rel.ne p [] hl)
      | cons kv t =>
        have := hin p kv.1
        simp [Go.Map.get, hl, KV.lookup] at this
  exact ⟨KV.eq_nil_of_lookup_none _ hcbp, KV.eq_nil_of_lookup_none _ hpar, hin, hpar⟩

end E2E

/-! ## a concrete history: the hypotheses are satisfiable, the store is not empty, and every clause of `DiscD` matters -/

namespace Demo

def a : Client := { (default : Client) with name := "a", topic := "t", send := 1, bookingID := "bk1", denied := 11, addr__ := 1 }
def b : Client := { (default : Client) with name := "b", topic := "t", send := 2, bookingID := "bk1", denied := 12, addr__ := 2 }
def c : Client := { (default : Client) with name := "c", topic := "t", send := 3, bookingID := "bk2", denied := 13, addr__ := 3 }
def d : Client := { (default : Client) with name := "d", topic := "t", send := 4, bookingID := "", denied := 14, addr__ := 4 }
def e : Client := { (default : Client) with name := "e", topic := "u", send := 5, bookingID := "bk1", denied := 15, addr__ := 5 }

/-- `a`'s queue holds one message, everybody else's two -/
def cap : Go.Chan → Nat := fun ch => if ch = 1 then 1 else 2

/-- maps of both kinds are ranged over backwards, in every step -/
def ws : Nat → Go.World := fun _ => { now := 0, fresh := "", ord := fun l => l.reverse, ordP := fun l => l.reverse }

theorem ws_ok : ∀ i, (ws i).OrdPOk := fun _ _ _ m => List.reverse_perm m
theorem ws_ord_ok : ∀ i, (ws i).OrdOk := fun _ _ m => List.reverse_perm m

def m1 : message := { sender := b, mt := 1, data := [1] }
def m2 : message := { sender := b, mt := 1, data := [2] }

/-- `a`, `b`, `e` connect under booking `bk1`, `c` under `bk2`, `d` without a booking id. `b` says `m1` (to `a`, `c`,
    `d`), then `m2`: `a`'s queue is full, `a` is evicted. `c` is unregistered. -/
def hist : List SEv :=
  [.register a, .register b, .register c, .register d, .register e, .inbound m1, .inbound m2, .unregister c]

def mid : Sys := sysRun ws 0 (init cap) (hist.take 5)
def fin : Sys := sysRun ws 0 (init cap) hist

theorem hist_disc : DiscD hist := by decide +kernel

example : DiscD hist := hist_disc

deriving instance DecidableEq for Gen.chanmap.Store

/-- evaluated once: the examples about the end state start from these values instead of each running the history -/
theorem fin_dcs : fin.h.dcs = { ChildrenByParent := [("bk1", [("e", 15), ("b", 12)])],
                                ParentByChild := [("e", "bk1"), ("b", "bk1")] } := by decide +kernel
theorem fin_reg : (sysRun ws 0 (init cap) hist).registered = [a, b, c, d, e] := by decide +kernel
theorem fin_filed : filed (sysRun ws 0 (init cap) hist).h "t" b ∧ filed (sysRun ws 0 (init cap) hist).h "t" d ∧
    filed (sysRun ws 0 (init cap) hist).h "u" e ∧ ¬ filed (sysRun ws 0 (init cap) hist).h "t" a ∧
    ¬ filed (sysRun ws 0 (init cap) hist).h "t" c := by decide +kernel

/-- after the five registrations: `d` (no booking id) is filed but not recorded -/
example : mid.h.dcs.ChildrenByParent = [("bk1", [("e", 15), ("b", 12), ("a", 11)]), ("bk2", [("c", 13)])] := by decide +kernel
example : mid.h.dcs.ParentByChild = [("e", "bk1"), ("c", "bk2"), ("b", "bk1"), ("a", "bk1")] := by decide +kernel
example : filed mid.h "t" d := by decide +kernel
example : (Gen.chanmap.Store.DeleteAndCloseParent (ws 0) mid.h.dcs "bk1").2.2 = [11, 12, 15] := by decide +kernel

/-- at the end: the evicted `a` and the unregistered `c` have left nothing behind -/
example : fin.closedLog = [1, 3] := by decide +kernel
example : filed fin.h "t" b ∧ filed fin.h "t" d ∧ filed fin.h "u" e ∧ ¬ filed fin.h "t" a ∧ ¬ filed fin.h "t" c := by
  unfold fin; exact fin_filed
example : fin.h.dcs.ChildrenByParent = [("bk1", [("e", 15), ("b", 12)])] := by rw [fin_dcs]
example : fin.h.dcs.ParentByChild = [("e", "bk1"), ("b", "bk1")] := by rw [fin_dcs]

/-- cancelling `bk1` closes the `denied` channels of `b` and `e`, the two connections still live under it … -/
example : (Gen.chanmap.Store.DeleteAndCloseParent (ws 0) fin.h.dcs "bk1").1 = none := by rw [fin_dcs]; decide
example : (Gen.chanmap.Store.DeleteAndCloseParent (ws 0) fin.h.dcs "bk1").2.2 = [12, 15] := by rw [fin_dcs]; decide
example : (Gen.chanmap.Store.DeleteAndCloseParent (ws 0) fin.h.dcs "bk1").2.1.ChildrenByParent = [] := by rw [fin_dcs]; decide
example : (Gen.chanmap.Store.DeleteAndCloseParent (ws 0) fin.h.dcs "bk1").2.1.ParentByChild = [] := by rw [fin_dcs]; decide
/-- … cancelling `bk2`, whose only connection has left, closes nothing -/
example : (Gen.chanmap.Store.DeleteAndCloseParent (ws 0) fin.h.dcs "bk2").2.2 = [] := by rw [fin_dcs]; decide

/-- … as the general theorems say -/
example : KV.lookup (Go.Map.get fin.h.dcs.ChildrenByParent "bk1") "b" = some 12 := by
  unfold fin -- `fin.h` against `(sysRun …).h` makes the unifier evaluate `fin`
  exact (e2e_dcs_matches_filed ws ws_ok cap hist hist_disc b (fin_reg ▸ by simp) "bk1" 12).2 ⟨fin_filed.1, rfl, by decide, rfl⟩
example : KV.lookup (Go.Map.get fin.h.dcs.ChildrenByParent "bk1") "a" = none := by
  unfold fin
  cases hl : KV.lookup (Go.Map.get (sysRun ws 0 (init cap) hist).h.dcs.ChildrenByParent "bk1") "a" with
  | none => rfl
  | some ch =>
    obtain ⟨_, _, _, ha_gone, _⟩ := fin_filed
    exact absurd ((e2e_dcs_matches_filed ws ws_ok cap hist hist_disc a (fin_reg ▸ by simp) "bk1" ch).1 hl).1 ha_gone
example : KV.lookup fin.h.dcs.ParentByChild "d" = none := by
  unfold fin
  exact e2e_parentByChild_none ws ws_ok cap hist hist_disc d (fin_reg ▸ by simp) (fun h => h.2 rfl)
example : (Gen.chanmap.Store.DeleteAndCloseParent (ws 0) fin.h.dcs "bk1").2.2.Perm [12, 15] := by
  unfold fin
  exact (e2e_deny_closes_exactly_the_bookings_connections ws ws_ok cap hist hist_disc (ws 0) (ws_ord_ok 0) "bk1"
    (by decide)).2.1.trans (by decide +kernel)

/-- when the rest leave too, the store is empty again -/
def histAll : List SEv := hist ++ [.unregister b, .unregister d, .unregister e]
theorem histAll_disc : DiscD histAll := by decide +kernel
example : DiscD histAll := histAll_disc
example : (sysRun ws 0 (init cap) histAll).h.dcs.ChildrenByParent = [] :=
  (e2e_idle_store_empty ws ws_ok cap histAll histAll_disc (by decide +kernel)).1

/-- **the discipline matters** (1), names must differ: `a2` is another connection (its own object, `send` and
    `denied` channels) with `a`'s name. Its registration overwrites `a`'s binding: a deny of `bk1` misses the live
    connection `a`. When `a` then leaves, the binding of the live connection `a2` goes: a deny misses `a2`. -/
def a2 : Client := { a with send := 6, denied := 16, addr__ := 6 }
def bad1 : List SEv := [.register a, .register a2]
def bad1' : List SEv := [.register a, .register a2, .unregister a]

example : Disc bad1' ∧ ¬ DiscD bad1 ∧ ¬ DiscD bad1' := by decide
example : filed (sysRun ws 0 (init cap) bad1).h "t" a ∧ filed (sysRun ws 0 (init cap) bad1).h "t" a2 := by decide
example : (Gen.chanmap.Store.DeleteAndCloseParent (ws 0) (sysRun ws 0 (init cap) bad1).h.dcs "bk1").2.2 = [16] := by decide
example : filed (sysRun ws 0 (init cap) bad1').h "t" a2 := by decide
example : (sysRun ws 0 (init cap) bad1').h.dcs.ChildrenByParent = [] := by decide
example : (Gen.chanmap.Store.DeleteAndCloseParent (ws 0) (sysRun ws 0 (init cap) bad1').h.dcs "bk1").2.2 = [] := by decide

/-- … (2), the clause about `unregister`: `a'` is a different object that was never registered but carries `a`'s
    name. All REGISTERED clients are as they should be (`Disc` and the clauses about names and channels hold),
    yet `unregister a'` leaves `a` filed and deletes `a`'s binding: a deny misses the live connection `a`. -/
def a' : Client := { a with addr__ := 7 }
def bad2 : List SEv := [.register a, .unregister a']

example : Disc bad2 ∧ ¬ DiscD bad2 := by decide
example : filed (sysRun ws 0 (init cap) bad2).h "t" a := by decide
example : (sysRun ws 0 (init cap) bad2).h.dcs.ChildrenByParent = [] := by decide
example : (Gen.chanmap.Store.DeleteAndCloseParent (ws 0) (sysRun ws 0 (init cap) bad2).h.dcs "bk1").2.2 = [] := by decide

/-- … (3), a nil `denied` channel or an empty name: `Add` answers "no channel" / "no child" (the hub only logs the
    error), the client is filed and not recorded -/
def z : Client := { a with denied := 0 }
def y : Client := { a with name := "" }

example : ¬ DiscD [.register z] ∧ ¬ DiscD [.register y] := by decide
example : filed (sysRun ws 0 (init cap) [.register z]).h "t" z ∧
    (sysRun ws 0 (init cap) [.register z]).h.dcs.ChildrenByParent = [] := by decide
example : filed (sysRun ws 0 (init cap) [.register y]).h "t" y ∧
    (sysRun ws 0 (init cap) [.register y]).h.dcs.ChildrenByParent = [] := by decide

/-- … (4), `denied` channels must differ: two connections of one booking sharing a channel — the deny closes it
    twice (the Go program would panic with "close of closed channel") -/
def b' : Client := { b with denied := 11 }
def bad4 : List SEv := [.register a, .register b']

example : Disc bad4 ∧ ¬ DiscD bad4 := by decide
example : (Gen.chanmap.Store.DeleteAndCloseParent (ws 0) (sysRun ws 0 (init cap) bad4).h.dcs "bk1").2.2 = [11, 11] := by decide

end Demo

end TieHubDcs
