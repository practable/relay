import Relay.Extracted.GenTtlcode
import Relay.Model.TtlCode
import Relay.Props.C02

/-!
# Tie: the Lean translation of `/repo/internal/ttlcode/ttlcode.go` (regenerated on every run) refines to the
hand-written code-store model, in every state satisfying the invariant `Good`, for every argument and every map iteration order.

Codes are uuid strings in the code and a counter in the model; `name : Nat → String` is ANY injective naming
(the assumption "uuid.New() never repeats" in its weakest form: the n-th generated code is `name n`).
-/

namespace TieTtlCode
open TtlCode

variable (name : Nat → String)

def tokOf (e : Entry) : Go.Token := { BookingID := e.bid, payload := e.tok }
def ent (e : Entry) : String × Gen.ttlcode.ExpToken := (name e.code, { Token := tokOf e, Exp := e.exp })
def toGen (s : Store) : Gen.ttlcode.CodeStore := { store := s.entries.map (ent name), ttl := s.ttl }

/-- the world the translated code runs in agrees with the model's clock and code counter -/
def WorldOk (w : Go.World) (s : Store) : Prop := w.now = s.now ∧ w.fresh = name s.next ∧ w.OrdOk

def NoDupCodes : List Entry → Prop
  | [] => True
  | e :: es => find es e.code = none ∧ NoDupCodes es

def Good (s : Store) : Prop := Fresh s ∧ NoDupCodes s.entries

theorem nodup_keepIf (p : Entry → Bool) (es : List Entry) (h : NoDupCodes es) : NoDupCodes (keepIf p es) := by
  induction es with
  | nil => trivial
  | cons e es ih =>
    obtain ⟨h1, h2⟩ := h
    by_cases hp : p e = true
    · simp only [keepIf, hp, if_true, NoDupCodes]; exact ⟨find_keepIf_none p es _ h1, ih h2⟩
    · simp only [keepIf, hp]; exact ih h2

theorem good_step (s : Store) (op : Op) (h : Good s) : Good (step s op).1 := by
  refine ⟨fresh_step s op h.1, ?_⟩
  obtain ⟨hf, hn⟩ := h
  cases op with
  | submit bid tok =>
    simp only [step, NoDupCodes]
    exact ⟨(find_none_iff _ _).2 fun e he => Nat.ne_of_lt (hf e he), hn⟩
  | exchange c =>
    rw [exchange_state]
    split
    · exact hn
    · rw [remove_eq_keepIf]; exact nodup_keepIf _ _ hn
  | clean | deleteByBooking b => exact nodup_keepIf _ _ hn
  | setNow t => exact hn

theorem good_init (ttl : Int) : Good { ttl := ttl } := ⟨(by intro e he; cases he), trivial⟩

theorem good_after (s : Store) (ops : List Op) (h : Good s) : Good (after s ops) :=
  List.foldlRecOn ops _ h fun s hs op _ => good_step s op hs

variable {name}

theorem lookup_map (hinj : Function.Injective name) (es : List Entry) (c : Nat) :
    KV.lookup (es.map (ent name)) (name c) = (find es c).map (fun e => (ent name e).2) := by
  induction es with
  | nil => rfl
  | cons e es ih =>
    by_cases hc : e.code = c
    · simp [KV.lookup, find, ent, hc]
    · have : ¬ name e.code = name c := fun h => hc (hinj h)
      simp only [List.map_cons, KV.lookup, find, ent, this, hc, if_false]
      exact ih

theorem lookup_unknown (es : List Entry) (str : String) (h : ∀ n, name n ≠ str) :
    KV.lookup (es.map (ent name)) str = none := by
  induction es with
  | nil => rfl
  | cons e es ih => simp only [List.map_cons, KV.lookup, ent, h e.code, if_false]; exact ih

theorem keep_map (p : String → Gen.ttlcode.ExpToken → Bool) (q : Entry → Bool) (es : List Entry)
    (h : ∀ e, p (ent name e).1 (ent name e).2 = q e) : KV.keep p (es.map (ent name)) = (keepIf q es).map (ent name) := by
  induction es with
  | nil => rfl
  | cons e es ih =>
    have he := h e
    simp only [ent] at he
    by_cases hq : q e = true
    · simp only [List.map_cons, KV.keep, keepIf, ent, he, hq, if_true, List.cons.injEq, true_and]; exact ih
    · simp only [List.map_cons, KV.keep, keepIf, ent, he, hq]; exact ih

theorem erase_map (hinj : Function.Injective name) (es : List Entry) (c : Nat) :
    KV.erase (es.map (ent name)) (name c) = (remove es c).map (ent name) := by
  rw [KV.erase_eq_keep, remove_eq_keepIf]
  exact keep_map _ _ es fun e => by by_cases h : e.code = c <;> simp [ent, h, hinj.eq_iff]

theorem nodup_map (hinj : Function.Injective name) (es : List Entry) (h : NoDupCodes es) : KV.NoDupKeys (es.map (ent name)) := by
  induction es with
  | nil => trivial
  | cons e es ih =>
    obtain ⟨h1, h2⟩ := h
    refine ⟨?_, ih h2⟩
    show KV.lookup (es.map (ent name)) (name e.code) = none
    rw [lookup_map hinj, h1]; rfl

/-- what `ExchangeCode` returns for the model's answer -/
def exchangeResult : Out → Go.Token × Go.Error
  | .token b t => ({ BookingID := b, payload := t }, none)
  | _ => (default, some "invalid code")

theorem submit_tie (hinj : Function.Injective name) (w : Go.World) (s : Store) (hw : WorldOk name w s) (hg : Good s)
    (bid : String) (tok : Nat) :
    Gen.ttlcode.CodeStore.SubmitToken w (toGen name s) { BookingID := bid, payload := tok }
      = (name s.next, toGen name (step s (.submit bid tok)).1) := by
  obtain ⟨hnow, hfresh, _⟩ := hw
  have habs : KV.erase (s.entries.map (ent name)) (name s.next) = s.entries.map (ent name) := by
    rw [erase_map hinj, remove_absent]
    intro e he
    exact Nat.ne_of_lt (hg.1 e he)
  simp only [Gen.ttlcode.CodeStore.SubmitToken, Gen.ttlcode.NewExpToken, toGen, step, hfresh, hnow, Go.Map.set, KV.insert, habs]
  rfl

theorem exchange_tie (hinj : Function.Injective name) (w : Go.World) (s : Store) (hw : WorldOk name w s) (c : Nat) :
    Gen.ttlcode.CodeStore.ExchangeCode w (toGen name s) (name c)
      = ((exchangeResult (step s (.exchange c)).2).1, (exchangeResult (step s (.exchange c)).2).2, toGen name (step s (.exchange c)).1) := by
  obtain ⟨hnow, _, _⟩ := hw
  simp only [Gen.ttlcode.CodeStore.ExchangeCode, Gen.ttlcode.ExpToken.Expired, toGen, step, Go.Map.get, Go.Map.has, KV.has, Go.Map.delete,
    lookup_map hinj, erase_map hinj, hnow]
  cases hf : find s.entries c with
  | none => simp [exchangeResult]
  | some e =>
    simp only [Option.map_some, Option.isSome_some, Bool.not_true, Bool.false_eq_true, if_false, Option.getD_some, ent, expired]
    by_cases hx : s.now > e.exp
    · simp [hx, exchangeResult]
    · simp [hx, exchangeResult, tokOf]

/-- a string that is not a generated code is refused and changes nothing (guessing does not help) -/
theorem exchange_unknown (w : Go.World) (s : Store) (str : String) (h : ∀ n, name n ≠ str) :
    Gen.ttlcode.CodeStore.ExchangeCode w (toGen name s) str = (default, some "invalid code", toGen name s) := by
  simp [Gen.ttlcode.CodeStore.ExchangeCode, toGen, Go.Map.has, KV.has, lookup_unknown s.entries str h]

theorem forSlice_store (c : Gen.ttlcode.CodeStore) (ks : List String) :
    Go.forSlice ks c (fun c _ k => { c with store := Go.Map.delete c.store k })
      = { c with store := Go.forSlice ks c.store (fun m _ k => Go.Map.delete m k) } :=
  Go.forSlice_field (fun c m => { c with store := m }) Go.Map.delete _ (fun _ _ _ => rfl) ks c c.store

theorem clean_tie (hinj : Function.Injective name) (w : Go.World) (s : Store) (hw : WorldOk name w s) (hg : Good s) :
    Gen.ttlcode.CodeStore.CleanExpired w (toGen name s) = toGen name (step s .clean).1 := by
  obtain ⟨hnow, _, hord⟩ := hw
  simp only [Gen.ttlcode.CodeStore.CleanExpired, toGen, step]
  rw [forSlice_store]
  simp only [Gen.ttlcode.CodeStore.mk.injEq, and_true]
  rw [Go.sweep_collect_delete w hord _ (nodup_map hinj _ hg.2) (fun _ v => Gen.ttlcode.ExpToken.Expired w v)]
  apply keep_map
  intro e
  simp [Gen.ttlcode.ExpToken.Expired, ent, expired, hnow]

theorem deleteByBooking_tie (hinj : Function.Injective name) (w : Go.World) (s : Store) (hw : WorldOk name w s) (hg : Good s) (b : String) :
    Gen.ttlcode.CodeStore.DeleteByBookingID w (toGen name s) b = toGen name (step s (.deleteByBooking b)).1 := by
  obtain ⟨_, _, hord⟩ := hw
  simp only [Gen.ttlcode.CodeStore.DeleteByBookingID, toGen, step]
  rw [forSlice_store]
  simp only [Gen.ttlcode.CodeStore.mk.injEq, and_true]
  rw [Go.sweep_collect_delete w hord _ (nodup_map hinj _ hg.2) (fun _ v => decide (v.Token.BookingID = b))]
  apply keep_map
  intro e
  by_cases h : e.bid = b <;> simp [ent, tokOf, h]

theorem count_tie (w : Go.World) (s : Store) :
    Gen.ttlcode.CodeStore.GetCodeCount w (toGen name s) = (s.entries.length : Int) := by
  simp [Gen.ttlcode.CodeStore.GetCodeCount, toGen, Go.Map.len]

theorem coverage : Gen.ttlcode.untranslated.map (·.1) = ["CodeStore.Close", "CodeStore.keepClean", "NewDefaultCodeStore"] ∧
    Gen.ttlcode.translated = ["CodeStore.CleanExpired", "CodeStore.DeleteByBookingID", "CodeStore.ExchangeCode", "CodeStore.GetCodeCount",
      "CodeStore.GetTTL", "CodeStore.SubmitToken", "CodeStore.WithTTL", "ExpToken.Expired", "NewExpToken"] :=
  ⟨rfl, rfl⟩

end TieTtlCode

/-! ## End to end: the property theorems, stated of histories of the TRANSLATED code

The clock and the uuid generator are the driver's (`now`, the `n`-th fresh code is `name n`); each call may range over
the map in a different order (`ords i`). -/

namespace TieTtlCodeE2E
open TtlCode TieTtlCode

structure G where
  c : Gen.ttlcode.CodeStore
  now : Int
  next : Nat

def world (name : Nat → String) (ord : {α : Type} → List (String × α) → List (String × α)) (g : G) : Go.World :=
  { now := g.now, fresh := name g.next, ord := ord }

/-- what the caller of the translated code observes -/
def outOf (r : Go.Token × Go.Error) : Out :=
  match r.2 with
  | none => .token r.1.BookingID r.1.payload
  | some _ => .invalid

def genStep (name : Nat → String) (ord : {α : Type} → List (String × α) → List (String × α)) (g : G) : Op → G × Out
  | .submit bid tok =>
      let r := Gen.ttlcode.CodeStore.SubmitToken (world name ord g) g.c { BookingID := bid, payload := tok }
      ({ g with c := r.2, next := g.next + 1 }, .issued g.next)
  | .exchange c =>
      let r := Gen.ttlcode.CodeStore.ExchangeCode (world name ord g) g.c (name c)
      ({ g with c := r.2.2 }, outOf (r.1, r.2.1))
  | .clean => ({ g with c := Gen.ttlcode.CodeStore.CleanExpired (world name ord g) g.c }, .done)
  | .deleteByBooking b => ({ g with c := Gen.ttlcode.CodeStore.DeleteByBookingID (world name ord g) g.c b }, .done)
  | .setNow t => ({ g with now := t }, .done)

def genRun (name : Nat → String) (ords : Nat → ({α : Type} → List (String × α) → List (String × α))) :
    Nat → G → List Op → G × List Out
  | _, g, [] => (g, [])
  | i, g, op :: ops =>
    let r := genStep name (ords i) g op
    let rest := genRun name ords (i + 1) r.1 ops
    (rest.1, r.2 :: rest.2)

def toG (name : Nat → String) (s : Store) : G := { c := toGen name s, now := s.now, next := s.next }

def OrdOk (ord : {α : Type} → List (String × α) → List (String × α)) : Prop := ∀ (α : Type) (m : List (String × α)), (ord m).Perm m

theorem genStep_tie (name : Nat → String) (hinj : Function.Injective name)
    (ord : {α : Type} → List (String × α) → List (String × α)) (hord : OrdOk ord) (s : Store) (hg : Good s) (op : Op) :
    genStep name ord (toG name s) op = (toG name (step s op).1, (step s op).2) := by
  have hw : WorldOk name (world name ord (toG name s)) s := ⟨rfl, rfl, hord⟩
  simp only [toG] at hw
  cases op with
  | submit bid tok =>
    simp only [genStep, toG]
    rw [submit_tie hinj _ s hw hg bid tok]
    rfl
  | exchange c =>
    simp only [genStep, toG]
    rw [exchange_tie hinj _ s hw c]
    simp only [step]
    cases hf : find s.entries c with
    | none => simp [exchangeResult, outOf]
    | some e => simp only; split <;> simp [exchangeResult, outOf]
  | clean =>
    simp only [genStep, toG]
    rw [clean_tie hinj _ s hw hg]
    rfl
  | deleteByBooking b =>
    simp only [genStep, toG]
    rw [deleteByBooking_tie hinj _ s hw hg b]
    rfl
  | setNow t => rfl

theorem genRun_tie (name : Nat → String) (hinj : Function.Injective name)
    (ords : Nat → ({α : Type} → List (String × α) → List (String × α))) (hords : ∀ i, OrdOk (ords i))
    (ops : List Op) (i : Nat) (s : Store) (hg : Good s) :
    genRun name ords i (toG name s) ops = (toG name (run s ops).1, (run s ops).2) := by
  induction ops generalizing i s with
  | nil => rfl
  | cons op ops ih =>
    simp only [genRun, run]
    rw [genStep_tie name hinj (ords i) (hords i) s hg op]
    rw [ih (i + 1) (step s op).1 (good_step s op hg)]

/-- successful exchanges of code `c` in a history, read off the observed outputs -/
def okExchanges (c : Nat) : List Op → List Out → Nat
  | op :: ops, o :: os => (if isOkExchange c (op, o) then 1 else 0) + okExchanges c ops os
  | _, _ => 0

theorem okExchanges_run (c : Nat) (s : Store) (ops : List Op) : okExchanges c ops (run s ops).2 = successes c s ops := by
  induction ops generalizing s with
  | nil => rfl
  | cons op ops ih =>
    simp only [run, okExchanges, successes]
    rw [ih]

/-- **C02 for the code as translated today**: in EVERY history of submit / exchange / sweep / delete-by-booking / clock
    operations performed with the translated functions — any injective uuid naming, any map iteration orders — every
    code is exchanged successfully at most once. -/
theorem translated_code_exchanged_at_most_once (name : Nat → String) (hinj : Function.Injective name)
    (ords : Nat → ({α : Type} → List (String × α) → List (String × α))) (hords : ∀ i, OrdOk (ords i))
    (ttl : Int) (ops : List Op) (c : Nat) :
    okExchanges c ops (genRun name ords 0 (toG name { ttl := ttl }) ops).2 ≤ 1 := by
  rw [genRun_tie name hinj ords hords ops 0 { ttl := ttl } (good_init ttl)]
  simp only
  rw [okExchanges_run]
  exact exchange_at_most_once ttl ops c

/-- … and the translated code answers every history exactly as the model does -/
theorem translated_outputs_are_the_models (name : Nat → String) (hinj : Function.Injective name)
    (ords : Nat → ({α : Type} → List (String × α) → List (String × α))) (hords : ∀ i, OrdOk (ords i))
    (ttl : Int) (ops : List Op) :
    (genRun name ords 0 (toG name { ttl := ttl }) ops).2 = (run { ttl := ttl } ops).2 := by
  rw [genRun_tie name hinj ords hords ops 0 { ttl := ttl } (good_init ttl)]

end TieTtlCodeE2E
