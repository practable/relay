import Relay.Tie.Access
import Relay.Props.C01
import Relay.Props.C02
import Relay.Props.C10

/-!
# The access API over WHOLE histories of the translated handlers

`Relay/Tie/Access.lean` relates ONE call of each handler translated from `internal/access/access.go` to the hand model.
Here the calls are composed: an `ApiEv` is anything that can happen to the shared configuration (the five handlers, the clock,
the deny store's pruner, the code store's sweeper, the websocket side exchanging a code); `genApiStep` performs it with the
TRANSLATED functions on `Gen.access.Config`, `modelApiStep` with the hand models on `(Deny.Reg × TtlCode.Store)`;
`api_run_tie` says that for EVERY history, every injective uuid naming and every family of map iteration orders the two agree
(configuration and everything a client observes). The property theorems C01 / C02 / C07 (sequential part) / C09 are then
corollaries about the translated code over all histories.
-/

namespace TieAccessE2E
open Access TieAccess

/-- what can happen to the configuration shared by the access API, the stores' housekeeping goroutines and the websocket side.
    A `Bearer` is a token `validateHeader` accepted (the handlers receive `prin b`). -/
inductive ApiEv where
  | session (b : Bearer) (id : String)              -- POST /session/{id}
  | deny (t : Bearer) (bid : String) (exp : Int)    -- POST /bids/deny?bid&exp (after go-openapi's binding)
  | allow (t : Bearer) (bid : String) (exp : Int)   -- POST /bids/allow?bid&exp
  | listDenied (t : Bearer)                         -- GET /bids/deny
  | listAllowed (t : Bearer)                        -- GET /bids/allow
  | setNow (n : Int)                                -- the clock (of both stores) moves, any direction
  | prune                                           -- `deny.Store.Prune` (the periodic pruner)
  | sweep                                           -- `ttlcode.CodeStore.CleanExpired` (the sweeper)
  | exchange (code : String)                        -- `ttlcode.CodeStore.ExchangeCode` (serveWs with a presented code)

/-- what is observed of one event -/
inductive Out where
  | reply (code : Nat)                              -- a status code alone (every refusal; 204 of allow)
  | uri (code : Nat) (u : String)                   -- 200 of the session endpoint: the relay URI with the one-time code
  | ids (code : Nat) (l : List String)              -- 200 of a list endpoint
  | denyReply (code : Nat) (notified : List String) -- the deny endpoint: status and what was sent on the deny channel
  | token (bid : String) (tok : Nat)                -- a code exchanged: booking id and identity of the connection token
  | invalid                                         -- a code refused
  | done                                            -- housekeeping: nothing to observe
deriving DecidableEq, Repr

/-- a client reads the status code, and the payload of a 200 -/
def obs (r : Go.Resp) : Out :=
  if r.code = 200 then
    match r with
    | .uri _ u => .uri 200 u
    | .ids _ l => .ids 200 l
    | _ => .reply 200
  else .reply r.code

/-- equal up to the order of an id list (Go ranges over the map in an unspecified order) -/
def Out.Equiv (a b : Out) : Prop := a = b ∨ ∃ c l l', a = .ids c l ∧ b = .ids c l' ∧ l.Perm l'

theorem Out.Equiv.rfl' (a : Out) : Out.Equiv a a := Or.inl rfl

theorem Out.Equiv.eq_of_not_ids {a b : Out} (h : Out.Equiv a b) (hb : ∀ c l, b ≠ .ids c l) : a = b := by
  rcases h with h | ⟨c, l, l', _, h2, _⟩
  · exact h
  · exact absurd h2 (hb c l')

/-- the translated configuration, the clock the driver shows to the code store, and the uuid generator's counter -/
structure GA where
  cfg : Gen.access.Config
  now : Int
  next : Nat

abbrev Ord := {α : Type} → List (String × α) → List (String × α)

def world (name : Nat → String) (ord : Ord) (g : GA) : Go.World := { now := g.now, fresh := name g.next, ord := ord }

def exchOut (r : Go.Token × Go.Error × Gen.ttlcode.CodeStore) : Out :=
  match r.2.1 with
  | none => .token r.1.BookingID r.1.payload
  | some _ => .invalid

/-- The uuid generator is advanced exactly when the session endpoint answers 200, i.e. exactly when `SubmitToken` consumed
    `w.fresh` (`sessionHandler_grant` / `sessionHandler_refusal`). -/
def genApiStep (name : Nat → String) (ord : Ord) (g : GA) : ApiEv → GA × Out
  | .session b id =>
      let r := Gen.access.sessionHandler (world name ord g) g.cfg { SessionID := id } (prin b)
      ({ g with cfg := r.2, next := if r.1.code = 200 then g.next + 1 else g.next }, obs r.1)
  | .deny t bid exp =>
      let r := Gen.access.denyHandler (world name ord g) g.cfg { Bid := bid, Exp := exp } (prin t)
      ({ g with cfg := r.2.1 }, .denyReply r.1.code r.2.2)
  | .allow t bid exp =>
      let r := Gen.access.allowHandler (world name ord g) g.cfg { Bid := bid, Exp := exp } (prin t)
      ({ g with cfg := r.2 }, .reply r.1.code)
  | .listDenied t => (g, obs (Gen.access.listDeniedHandler (world name ord g) g.cfg ⟨⟩ (prin t)))
  | .listAllowed t => (g, obs (Gen.access.listAllowedHandler (world name ord g) g.cfg ⟨⟩ (prin t)))
  | .setNow n =>
      ({ g with cfg := { g.cfg with DenyStore := Gen.deny.Store.SetNowFunc (world name ord g) g.cfg.DenyStore (fun _ => n) }, now := n },
        .done)
  | .prune => ({ g with cfg := { g.cfg with DenyStore := Gen.deny.Store.Prune (world name ord g) g.cfg.DenyStore } }, .done)
  | .sweep => ({ g with cfg := { g.cfg with CodeStore := Gen.ttlcode.CodeStore.CleanExpired (world name ord g) g.cfg.CodeStore } }, .done)
  | .exchange code =>
      let r := Gen.ttlcode.CodeStore.ExchangeCode (world name ord g) g.cfg.CodeStore code
      ({ g with cfg := { g.cfg with CodeStore := r.2.2 } }, exchOut r)

/-- the `i`-th call ranges over maps in the order `ords i` -/
def genApiRun (name : Nat → String) (ords : Nat → Ord) : Nat → GA → List ApiEv → GA × List Out
  | _, g, [] => (g, [])
  | i, g, ev :: evs =>
    let r := genApiStep name (ords i) g ev
    let rest := genApiRun name ords (i + 1) r.1 evs
    (rest.1, r.2 :: rest.2)

abbrev M := Deny.Reg × TtlCode.Store

/-- the model state as the access model's `St` (only `reg` is read by `sessionRefusal`) -/
def stOf (m : M) : Access.St := { now := m.1.now, reg := m.1, codes := m.2 }

/-- the stored entry a presented string names, if any -/
def findS (name : Nat → String) (es : List TtlCode.Entry) (str : String) : Option TtlCode.Entry :=
  es.find? (fun e => name e.code == str)

def exchOutM : TtlCode.Out → Out
  | .token b t => .token b t
  | _ => .invalid

def modelApiStep (name : Nat → String) (cfg : Access.Config) (m : M) : ApiEv → M × Out
  | .session b id =>
      match sessionRefusal cfg (stOf m) b id with
      | some c => (m, .reply c)
      | none =>
        ((Deny.step m.1 (.allow b.bid (b.exp.getD 0)),
          (TtlCode.step m.2 (.submit b.bid (Go.tokenId (mintedToken cfg.target b id)))).1),
         .uri 200 (cfg.target ++ "/" ++ b.pfx ++ "/" ++ b.topic ++ "?code=" ++ name m.2.next))
  | .deny t b e =>
      if isRelayAdmin t = false then (m, .denyReply 401 [])
      else if b = "" then (m, .denyReply 400 [])
      else if e < m.1.now then (m, .denyReply 400 [])
      else ((Deny.step m.1 (.deny b e), (TtlCode.step m.2 (.deleteByBooking b)).1), .denyReply 204 [b])
  | .allow t b e =>
      if isRelayAdmin t = false then (m, .reply 401)
      else if b = "" then (m, .reply 400)
      else if e < m.1.now then (m, .reply 400)
      else ((Deny.step m.1 (.allow b e), m.2), .reply 204)
  | .listDenied t => if isRelayAdmin t = false then (m, .reply 401) else (m, .ids 200 (KV.keys m.1.deny))
  | .listAllowed t => if isRelayAdmin t = false then (m, .reply 401) else (m, .ids 200 (KV.keys m.1.allow))
  | .setNow n => ((Deny.step m.1 (.setNow n), (TtlCode.step m.2 (.setNow n)).1), .done)
  | .prune => ((Deny.step m.1 .prune, m.2), .done)
  | .sweep => ((m.1, (TtlCode.step m.2 .clean).1), .done)
  | .exchange str =>
      match findS name m.2.entries str with
      | none => (m, .invalid)
      | some e => ((m.1, (TtlCode.step m.2 (.exchange e.code)).1), exchOutM (TtlCode.step m.2 (.exchange e.code)).2)

def modelApiRun (name : Nat → String) (cfg : Access.Config) : M → List ApiEv → M × List Out
  | m, [] => (m, [])
  | m, ev :: evs =>
    let r := modelApiStep name cfg m ev
    let rest := modelApiRun name cfg r.1 evs
    (rest.1, r.2 :: rest.2)

/-- `modelApiStep`'s session is the access model's `session` (after routing and authentication): same refusal status, same
    register, same code counter; the stored token identity is `Go.tokenId` of the minted token where the access model keeps an
    index into its ghost list `ptoks` -/
theorem model_session_as_access (name : Nat → String) (cfg : Access.Config) (s : Access.St) (b : Bearer) (id : String)
    (hr : routable id = true) (hv : headerValid cfg s.now b = true) :
    let r := modelApiStep name cfg (s.reg, s.codes) (.session b id)
    let a := Access.session cfg s (.token b) id
    a.1.reg = r.1.1 ∧ a.1.codes.next = r.1.2.next ∧ a.1.codes.now = r.1.2.now ∧
    (∀ c, sessionRefusal cfg s b id = some c → a = (s, .status c) ∧ r = ((s.reg, s.codes), .reply c)) ∧
    (sessionRefusal cfg s b id = none → (∃ u, a.2 = .sessionOK s.codes.next u) ∧ ∃ u, r.2 = .uri 200 u) := by
  have hsr : sessionRefusal cfg (stOf (s.reg, s.codes)) b id = sessionRefusal cfg s b id := rfl
  cases h : sessionRefusal cfg s b id with
  | some c => simp [modelApiStep, hsr, h, Access.session, hr, authenticate, hv]
  | none => simp [modelApiStep, hsr, h, Access.session, hr, authenticate, hv, sessionGrant, TtlCode.step]

def OrdOk (ord : Ord) : Prop := ∀ (α : Type) (m : List (String × α)), (ord m).Perm m

/-- the translated configuration holds the model state; the driver's clock and uuid counter are the code store model's -/
structure Corr (name : Nat → String) (cfg : Access.Config) (g : GA) (m : M) : Prop where
  cfg : SessCfgOk name g.cfg cfg m.1 m.2
  now : g.now = m.2.now
  next : g.next = m.2.next

structure Inv (m : M) : Prop where
  reg : Deny.Inv m.1
  codes : TieTtlCode.Good m.2

theorem findS_name {name : Nat → String} (hinj : Function.Injective name) (es : List TtlCode.Entry) (c : Nat) :
    findS name es (name c) = TtlCode.find es c := by
  rw [TtlCode.find_eq_find?]
  exact congrArg (es.find? ·) (funext fun e => decide_eq_decide.2 hinj.eq_iff)

theorem findS_unknown {name : Nat → String} (es : List TtlCode.Entry) (str : String) (h : ∀ n, name n ≠ str) :
    findS name es str = none := by
  simp [findS, h]

theorem findS_some {name : Nat → String} (es : List TtlCode.Entry) (str : String) (e : TtlCode.Entry)
    (h : findS name es str = some e) : e ∈ es ∧ name e.code = str := by
  unfold findS at h
  exact ⟨List.mem_of_find?_eq_some h, by simpa using List.find?_some h⟩

theorem obs_of_ne (r : Go.Resp) (h : r.code ≠ 200) : obs r = .reply r.code := by simp [obs, h]

variable {name : Nat → String} {cfg : Access.Config} {m : M}

theorem model_deny (t : Bearer) (b : String) (e : Int) :
    modelApiStep name cfg m (.deny t b e) =
      if adminGuard t b e m.1.now = 204 then
        ((Deny.step m.1 (.deny b e), (TtlCode.step m.2 (.deleteByBooking b)).1), .denyReply 204 [b])
      else (m, .denyReply (adminGuard t b e m.1.now) []) := by
  by_cases ha : isRelayAdmin t = true
  · by_cases hb : b = "" <;> by_cases he : e < m.1.now <;> simp [modelApiStep, adminGuard, ha, hb, he]
  · simp [modelApiStep, adminGuard, ha]

theorem model_allow (t : Bearer) (b : String) (e : Int) :
    modelApiStep name cfg m (.allow t b e) =
      if adminGuard t b e m.1.now = 204 then ((Deny.step m.1 (.allow b e), m.2), .reply 204)
      else (m, .reply (adminGuard t b e m.1.now)) := by
  by_cases ha : isRelayAdmin t = true
  · by_cases hb : b = "" <;> by_cases he : e < m.1.now <;> simp [modelApiStep, adminGuard, ha, hb, he]
  · simp [modelApiStep, adminGuard, ha]

theorem model_listDenied (t : Bearer) :
    modelApiStep name cfg m (.listDenied t) = (m, if isRelayAdmin t = false then .reply 401 else .ids 200 (KV.keys m.1.deny)) :=
  (apply_ite (Prod.mk m) _ _ _).symm

theorem model_listAllowed (t : Bearer) :
    modelApiStep name cfg m (.listAllowed t) = (m, if isRelayAdmin t = false then .reply 401 else .ids 200 (KV.keys m.1.allow)) :=
  (apply_ite (Prod.mk m) _ _ _).symm

theorem model_exchange_name (hinj : Function.Injective name) (c : Nat) :
    modelApiStep name cfg m (.exchange (name c)) =
      ((m.1, (TtlCode.step m.2 (.exchange c)).1), exchOutM (TtlCode.step m.2 (.exchange c)).2) := by
  simp only [modelApiStep, findS_name hinj]
  cases hf : TtlCode.find m.2.entries c with
  | none => simp [TtlCode.step, hf, exchOutM]
  | some e => simp [(TtlCode.find_some _ _ _ hf).2]

theorem model_exchange_unknown (k : String) (h : ∀ n, name n ≠ k) :
    modelApiStep name cfg m (.exchange k) = (m, .invalid) := by
  simp [modelApiStep, findS_unknown _ _ h]

/-- the code-store operation an event performs, if any -/
def codeOp (name : Nat → String) (cfg : Access.Config) (m : M) : ApiEv → Option TtlCode.Op
  | .session b id =>
      if sessionRefusal cfg (stOf m) b id = none then some (.submit b.bid (Go.tokenId (mintedToken cfg.target b id))) else none
  | .deny t b e => if isRelayAdmin t = true ∧ b ≠ "" ∧ ¬ e < m.1.now then some (.deleteByBooking b) else none
  | .setNow n => some (.setNow n)
  | .sweep => some .clean
  | .exchange str => (findS name m.2.entries str).map (fun e => .exchange e.code)
  | _ => none

/-- the register operation an event performs, if any -/
def regOp (cfg : Access.Config) (m : M) : ApiEv → Option Deny.Op
  | .session b id => if sessionRefusal cfg (stOf m) b id = none then some (.allow b.bid (b.exp.getD 0)) else none
  | .deny t b e => if isRelayAdmin t = true ∧ b ≠ "" ∧ ¬ e < m.1.now then some (.deny b e) else none
  | .allow t b e => if isRelayAdmin t = true ∧ b ≠ "" ∧ ¬ e < m.1.now then some (.allow b e) else none
  | .setNow n => some (.setNow n)
  | .prune => some .prune
  | _ => none

theorem model_state (ev : ApiEv) :
    (modelApiStep name cfg m ev).1 =
      (match regOp cfg m ev with
       | none => m.1
       | some op => Deny.step m.1 op,
       match codeOp name cfg m ev with
       | none => m.2
       | some op => (TtlCode.step m.2 op).1) := by
  cases ev with
  | session b id =>
    cases hr : sessionRefusal cfg (stOf m) b id <;> simp only [modelApiStep, regOp, codeOp, hr, reduceCtorEq, if_false, if_true]
  | deny t b e =>
    simp only [model_deny, regOp, codeOp, ← adminGuard_eq_204]
    split <;> rfl
  | allow t b e =>
    simp only [model_allow, regOp, codeOp, ← adminGuard_eq_204]
    split <;> rfl
  | listDenied t => rw [model_listDenied]; rfl
  | listAllowed t => rw [model_listAllowed]; rfl
  | setNow n | prune | sweep => rfl
  | exchange str => cases hf : findS name m.2.entries str <;> simp only [modelApiStep, regOp, codeOp, hf, Option.map_none, Option.map_some]

theorem model_codes (ev : ApiEv) :
    (modelApiStep name cfg m ev).1.2 =
      match codeOp name cfg m ev with
      | none => m.2
      | some op => (TtlCode.step m.2 op).1 :=
  congrArg Prod.snd (model_state ev)

theorem model_reg (name : Nat → String) (cfg : Access.Config) (m : M) (ev : ApiEv) :
    (modelApiStep name cfg m ev).1.1 =
      match regOp cfg m ev with
      | none => m.1
      | some op => Deny.step m.1 op :=
  congrArg Prod.fst (model_state ev)

theorem reg_step {ev : ApiEv} {P : Deny.Reg → Prop} (h : P m.1)
    (hP : ∀ op, regOp cfg m ev = some op → P (Deny.step m.1 op)) : P (modelApiStep name cfg m ev).1.1 := by
  rw [model_reg]
  cases hop : regOp cfg m ev with
  | none => exact h
  | some op => exact hP op hop

theorem codes_step {ev : ApiEv} {P : TtlCode.Store → Prop} (h : P m.2)
    (hP : ∀ op, codeOp name cfg m ev = some op → P (TtlCode.step m.2 op).1) : P (modelApiStep name cfg m ev).1.2 := by
  rw [model_codes]
  cases hop : codeOp name cfg m ev with
  | none => exact h
  | some op => exact hP op hop

theorem inv_step (hI : Inv m) (ev : ApiEv) : Inv (modelApiStep name cfg m ev).1 :=
  ⟨reg_step hI.reg fun op _ => Deny.step_inv m.1 op hI.reg, codes_step hI.codes fun op _ => TieTtlCode.good_step m.2 op hI.codes⟩

theorem exchOut_result (o : TtlCode.Out) (st : Gen.ttlcode.CodeStore) :
    exchOut ((TieTtlCode.exchangeResult o).1, (TieTtlCode.exchangeResult o).2, st) = exchOutM o := by
  cases o <;> rfl

theorem obs_list (r : Go.Resp) (t : Bearer) (ks : List String)
    (h : (isRelayAdmin t = false → r.code = 401) ∧ (isRelayAdmin t = true → ∃ l, r = .ids 200 l ∧ l.Perm ks)) :
    Out.Equiv (obs r) (if isRelayAdmin t = false then .reply 401 else .ids 200 ks) := by
  by_cases ha : isRelayAdmin t = false
  · have h1 := h.1 ha
    rw [if_pos ha, obs_of_ne r (by rw [h1]; omega), h1]
    exact Or.inl rfl
  · obtain ⟨l, rfl, hl⟩ := h.2 (by simpa using ha)
    rw [if_neg ha]
    exact Or.inr ⟨_, _, _, rfl, rfl, hl⟩

theorem gen_session_refused (ord : Ord) {g : GA} (hs : SessCfgOk name g.cfg cfg m.1 m.2) {b : Bearer} {id : String} {c : Nat}
    (hr : sessionRefusal cfg (stOf m) b id = some c) :
    genApiStep name ord g (.session b id) = (g, .reply c) ∧ (c = 401 ∨ c = 400) := by
  obtain ⟨h1, h2⟩ := sessionHandler_refusal name (world name ord g) g.cfg cfg (stOf m) hs b id c hr
  have hcodes := sessionRefusal_codes cfg (stOf m) b id c hr
  have hne : c ≠ 200 := by rcases hcodes with h | h <;> omega
  simp only [genApiStep, obs_of_ne _ (h1 ▸ hne), h1, h2, if_neg hne]
  exact ⟨trivial, hcodes⟩

/-- **one event**: the translated code and the model stay in correspondence and are observed alike -/
theorem api_step_tie (name : Nat → String) (hinj : Function.Injective name) (cfg : Access.Config) (ord : Ord) (hord : OrdOk ord)
    (g : GA) (m : M) (hc : Corr name cfg g m) (hI : Inv m) (ev : ApiEv) :
    Corr name cfg (genApiStep name ord g ev).1 (modelApiStep name cfg m ev).1 ∧
    Out.Equiv (genApiStep name ord g ev).2 (modelApiStep name cfg m ev).2 := by
  have hw : TieTtlCode.WorldOk name (world name ord g) m.2 := ⟨hc.now, congrArg name hc.next, hord⟩
  have hs := hc.cfg
  -- store-level cases (deny, allow, clock, prune, sweep, exchange): the two stores of `g.cfg` are first replaced by the model's
  -- (`hD`, `hC`); then the store's own tie applies. Where `{ hc with … }` keeps `now` / `next` for the new model state, that is
  -- by unfolding `TtlCode.step`: `deleteByBooking`, `clean` and `setNow` leave the counter alone, the first two also the clock.
  have hD := hs.stores.reg
  have hC := hs.stores.codes
  cases ev with
  | session b id =>
    cases hr : sessionRefusal cfg (stOf m) b id with
    | some c =>
      simp only [(gen_session_refused ord hs hr).1, modelApiStep, hr]
      exact ⟨hc, Or.inl rfl⟩
    | none =>
      obtain ⟨h1, h2⟩ := sessionHandler_grant name hinj (world name ord g) g.cfg cfg (stOf m) hs hw hI.codes b id hr
      simp only [genApiStep, modelApiStep, hr, h1, Go.Resp.code, if_true, obs]
      exact ⟨{ cfg := h2, now := hc.now, next := congrArg (· + 1) hc.next }, Or.inl rfl⟩
  | deny t b e =>
    obtain ⟨h1, _, h3⟩ := denyHandler_eq (world name ord g) g.cfg b e t
    rw [hs.stores.now] at h1 h3
    simp only [genApiStep, model_deny, h1, h3]
    by_cases hg : adminGuard t b e m.1.now = 204
    · simp only [if_pos hg, hD, hC]
      exact ⟨{ hc with cfg := { hs with stores :=
                { reg := TieDeny.deny_tie (world name ord g) m.1 b e,
                  codes := TieTtlCode.deleteByBooking_tie hinj _ m.2 hw hI.codes b } } },
        Or.inl (by rw [hg])⟩
    · simp only [if_neg hg]
      exact ⟨hc, Or.inl rfl⟩
  | allow t b e =>
    obtain ⟨h1, _, h3⟩ := allowHandler_eq (world name ord g) g.cfg b e t
    rw [hs.stores.now] at h1 h3
    simp only [genApiStep, model_allow, h1, h3]
    by_cases hg : adminGuard t b e m.1.now = 204
    · simp only [if_pos hg, hD]
      exact ⟨{ hc with cfg := { hs with stores := { reg := TieDeny.allow_tie (world name ord g) m.1 b e, codes := hC } } },
        Or.inl (by rw [hg])⟩
    · simp only [if_neg hg]
      exact ⟨hc, Or.inl rfl⟩
  | listDenied t =>
    simp only [genApiStep, model_listDenied]
    exact ⟨hc, obs_list _ t _ (listDeniedHandler_tie name (world name ord g) hord g.cfg m.1 m.2 hs.stores t)⟩
  | listAllowed t =>
    simp only [genApiStep, model_listAllowed]
    exact ⟨hc, obs_list _ t _ (listAllowedHandler_tie name (world name ord g) hord g.cfg m.1 m.2 hs.stores t)⟩
  | setNow n =>
    simp only [genApiStep, modelApiStep, hD]
    exact ⟨{ hc with cfg := { hs with stores := { reg := TieDeny.setNow_tie (world name ord g) m.1 n, codes := hC } }, now := rfl },
      Or.inl rfl⟩
  | prune =>
    simp only [genApiStep, modelApiStep, hD]
    exact ⟨{ hc with cfg := { hs with stores :=
              { reg := TieDeny.prune_tie (world name ord g) hord m.1 hI.reg.nda hI.reg.ndd, codes := hC } } },
      Or.inl rfl⟩
  | sweep =>
    simp only [genApiStep, modelApiStep, hC]
    exact ⟨{ hc with cfg := { hs with stores := { reg := hD, codes := TieTtlCode.clean_tie hinj _ m.2 hw hI.codes } } },
      Or.inl rfl⟩
  | exchange str =>
    simp only [genApiStep, hC]
    by_cases hk : ∃ c, name c = str
    · obtain ⟨c, rfl⟩ := hk
      rw [TieTtlCode.exchange_tie hinj _ m.2 hw c, model_exchange_name hinj, exchOut_result]
      refine ⟨{ cfg := { hs with stores := { reg := hD, codes := rfl } }, now := ?_,
                next := (TtlCode.exchange_next m.2 c).symm ▸ hc.next }, Or.inl rfl⟩
      rw [TtlCode.exchange_state]
      split <;> exact hc.now
    · have hk' : ∀ n, name n ≠ str := fun n h => hk ⟨n, h⟩
      rw [TieTtlCode.exchange_unknown _ m.2 str hk', model_exchange_unknown str hk']
      exact ⟨{ hc with cfg := { hs with stores := { reg := hD, codes := rfl } } }, Or.inl rfl⟩

inductive OutsEquiv : List Out → List Out → Prop
  | nil : OutsEquiv [] []
  | cons {a b : Out} {as bs : List Out} : Out.Equiv a b → OutsEquiv as bs → OutsEquiv (a :: as) (b :: bs)

theorem api_run_tie_from (name : Nat → String) (hinj : Function.Injective name) (cfg : Access.Config)
    (ords : Nat → Ord) (hords : ∀ i, OrdOk (ords i)) (evs : List ApiEv) (i : Nat) (g : GA) (m : M)
    (hc : Corr name cfg g m) (hI : Inv m) :
    Corr name cfg (genApiRun name ords i g evs).1 (modelApiRun name cfg m evs).1 ∧
    OutsEquiv (genApiRun name ords i g evs).2 (modelApiRun name cfg m evs).2 ∧ Inv (modelApiRun name cfg m evs).1 := by
  induction evs generalizing i g m with
  | nil => exact ⟨hc, .nil, hI⟩
  | cons ev evs ih =>
    obtain ⟨h1, h2⟩ := api_step_tie name hinj cfg (ords i) (hords i) g m hc hI ev
    obtain ⟨h3, h4, h5⟩ := ih (i + 1) _ _ h1 (inv_step hI ev)
    exact ⟨h3, .cons h2 h4, h5⟩

/-- the configuration `access.API` starts from: empty stores, the session handler's parameters as configured -/
def gen0 (cfg : Access.Config) (ttl : Int) (host secret : String) (port : Int) (chan : Go.Chan) : GA :=
  { cfg := { AllowNoBookingID := cfg.allowNoBid, CodeStore := { store := [], ttl := ttl }, DenyChannel := chan,
             DenyStore := { AllowList := [], DenyList := [], Now := fun _ => 0 }, Host := host, Port := port, Secret := secret,
             Target := cfg.target },
    now := 0, next := 0 }

def m0 (ttl : Int) : M := ({}, { ttl := ttl })

theorem corr0 (name : Nat → String) (cfg : Access.Config) (ttl : Int) (host secret : String) (port : Int) (chan : Go.Chan) :
    Corr name cfg (gen0 cfg ttl host secret port chan) (m0 ttl) :=
  ⟨⟨⟨rfl, rfl⟩, rfl, rfl⟩, rfl, rfl⟩

theorem inv0 (ttl : Int) : Inv (m0 ttl) := ⟨Deny.inv_init, TieTtlCode.good_init ttl⟩

/-- **the access API as translated today, over whole histories**: for EVERY list of events, every injective naming of the
    uuids, every family of map iteration orders — starting from the empty stores, the translated configuration after the
    history holds exactly the model state after the same history (`SessCfgOk`), and every observation is the model's (id lists
    up to their order). -/
theorem api_run_tie (name : Nat → String) (hinj : Function.Injective name) (cfg : Access.Config)
    (ords : Nat → Ord) (hords : ∀ i, OrdOk (ords i)) (ttl : Int) (host secret : String) (port : Int) (chan : Go.Chan)
    (evs : List ApiEv) :
    let gr := genApiRun name ords 0 (gen0 cfg ttl host secret port chan) evs
    let mr := modelApiRun name cfg (m0 ttl) evs
    SessCfgOk name gr.1.cfg cfg mr.1.1 mr.1.2 ∧ gr.1.now = mr.1.2.now ∧ gr.1.next = mr.1.2.next ∧
    OutsEquiv gr.2 mr.2 ∧ Inv mr.1 := by
  obtain ⟨h1, h2, h3⟩ := api_run_tie_from name hinj cfg ords hords evs 0 _ _ (corr0 name cfg ttl host secret port chan) (inv0 ttl)
  exact ⟨h1.cfg, h1.now, h1.next, h2, h3⟩

theorem genApiRun_append (name : Nat → String) (ords : Nat → Ord) (xs ys : List ApiEv) (i : Nat) (g : GA) :
    genApiRun name ords i g (xs ++ ys) =
      ((genApiRun name ords (i + xs.length) (genApiRun name ords i g xs).1 ys).1,
       (genApiRun name ords i g xs).2 ++ (genApiRun name ords (i + xs.length) (genApiRun name ords i g xs).1 ys).2) := by
  induction xs generalizing i g with
  | nil => rfl
  | cons x xs ih =>
    simp only [List.cons_append, genApiRun, List.length_cons]
    rw [ih]
    have : i + 1 + xs.length = i + (xs.length + 1) := by omega
    rw [this]

theorem modelApiRun_append_state (xs ys : List ApiEv) :
    (modelApiRun name cfg m (xs ++ ys)).1 = (modelApiRun name cfg (modelApiRun name cfg m xs).1 ys).1 := by
  induction xs generalizing m with
  | nil => rfl
  | cons x xs ih => exact ih

theorem reach (name : Nat → String) (hinj : Function.Injective name) (cfg : Access.Config)
    (ords : Nat → Ord) (hords : ∀ i, OrdOk (ords i)) (ttl : Int) (host secret : String) (port : Int) (chan : Go.Chan)
    (evs : List ApiEv) :
    Corr name cfg (genApiRun name ords 0 (gen0 cfg ttl host secret port chan) evs).1 (modelApiRun name cfg (m0 ttl) evs).1 ∧
    Inv (modelApiRun name cfg (m0 ttl) evs).1 := by
  obtain ⟨hc, _, hI⟩ := api_run_tie_from name hinj cfg ords hords evs 0 _ _ (corr0 name cfg ttl host secret port chan) (inv0 ttl)
  exact ⟨hc, hI⟩

/-- the clock after a history: the last `setNow` -/
def clockOf : Int → List ApiEv → Int
  | n, [] => n
  | _, .setNow k :: evs => clockOf k evs
  | n, _ :: evs => clockOf n evs

theorem model_now_step (ev : ApiEv) :
    (modelApiStep name cfg m ev).1.1.now = clockOf m.1.now [ev] := by
  cases ev with
  | session b id => cases hr : sessionRefusal cfg (stOf m) b id <;> simp only [modelApiStep, hr] <;> rfl
  | deny t b e => rw [model_deny]; split <;> rfl
  | allow t b e => rw [model_allow]; split <;> rfl
  | listDenied t => rw [model_listDenied]; rfl
  | listAllowed t => rw [model_listAllowed]; rfl
  | exchange str => rw [model_reg]; rfl
  | _ => rfl

theorem model_now_run (evs : List ApiEv) (m : M) :
    (modelApiRun name cfg m evs).1.1.now = clockOf m.1.now evs := by
  induction evs generalizing m with
  | nil => rfl
  | cons ev evs ih =>
    simp only [modelApiRun]
    rw [ih, model_now_step]
    cases ev <;> rfl

/-! ## C01 — the session endpoint, at every point of every history -/

theorem session_at (hinj : Function.Injective name) (ord : Ord) (hord : OrdOk ord) {g : GA} (hc : Corr name cfg g m) (hI : Inv m)
    (b : Bearer) (id : String) :
    let r := genApiStep name ord g (.session b id)
    ((∃ u, r.2 = .uri 200 u) ↔ sessionRefusal cfg (stOf m) b id = none) ∧
    (sessionRefusal cfg (stOf m) b id = none →
      r.2 = .uri 200 (cfg.target ++ "/" ++ b.pfx ++ "/" ++ b.topic ++ "?code=" ++ name m.2.next) ∧
      r.1.cfg.CodeStore.store =
        (name m.2.next, { Token := { BookingID := b.bid, payload := Go.tokenId (mintedToken cfg.target b id) }, Exp := m.2.now + m.2.ttl })
          :: g.cfg.CodeStore.store ∧
      (∀ kv ∈ g.cfg.CodeStore.store, kv.1 ≠ name m.2.next)) ∧
    (∀ c, sessionRefusal cfg (stOf m) b id = some c → r.2 = .reply c ∧ (c = 401 ∨ c = 400) ∧ r.1 = g) := by
  obtain ⟨h1, h2⟩ := api_step_tie name hinj cfg ord hord g m hc hI (.session b id)
  cases hr : sessionRefusal cfg (stOf m) b id with
  | some c =>
    obtain ⟨hg, hcodes⟩ := gen_session_refused ord hc.cfg hr
    rw [hg]
    refine ⟨?_, ?_, ?_⟩
    · exact iff_of_false (fun ⟨_, hu⟩ => nomatch hu) nofun
    · nofun
    · intro c' hc'
      cases hc'
      exact ⟨rfl, hcodes, rfl⟩
  | none =>
    simp only [modelApiStep, hr] at h1 h2
    have hout := h2.eq_of_not_ids nofun
    refine ⟨?_, ?_, ?_⟩
    · exact iff_of_true ⟨_, hout⟩ rfl
    · refine fun _ => ⟨hout, ?_, ?_⟩
      · rw [h1.cfg.stores.codes, hc.cfg.stores.codes]
        rfl
      · -- stored codes are below the counter (`Fresh`), and the naming is injective
        rw [hc.cfg.stores.codes]
        intro kv hkv heq
        obtain ⟨e, he, rfl⟩ := List.mem_map.1 hkv
        exact Nat.ne_of_lt (hI.codes.1 e he) (hinj heq)
    · nofun

/-- **C01 for the code as translated today**: at every point of every history, the translated session handler answers 200
    exactly when the model's guards (`sessionRefusal`, evaluated in the model state after the same history) all pass; then
    the reply is the relay URI carrying a NEW code, and the translated code store has gained exactly one entry: that code, for
    exactly the connection token `mintedToken …` under the bearer's booking id, expiring `ttl` from now. Otherwise the reply
    is the model's refusal status (401 / 400) and nothing at all has changed. -/
theorem translated_session_grant_iff (name : Nat → String) (hinj : Function.Injective name) (cfg : Access.Config)
    (ords : Nat → Ord) (hords : ∀ i, OrdOk (ords i)) (ttl : Int) (host secret : String) (port : Int) (chan : Go.Chan)
    (pre : List ApiEv) (ord : Ord) (hord : OrdOk ord) (b : Bearer) (id : String) :
    let g := (genApiRun name ords 0 (gen0 cfg ttl host secret port chan) pre).1
    let m := (modelApiRun name cfg (m0 ttl) pre).1
    let r := genApiStep name ord g (.session b id)
    ((∃ u, r.2 = .uri 200 u) ↔ sessionRefusal cfg (stOf m) b id = none) ∧
    (sessionRefusal cfg (stOf m) b id = none →
      r.2 = .uri 200 (cfg.target ++ "/" ++ b.pfx ++ "/" ++ b.topic ++ "?code=" ++ name m.2.next) ∧
      r.1.cfg.CodeStore.store =
        (name m.2.next, { Token := { BookingID := b.bid, payload := Go.tokenId (mintedToken cfg.target b id) }, Exp := m.2.now + m.2.ttl })
          :: g.cfg.CodeStore.store ∧
      (∀ kv ∈ g.cfg.CodeStore.store, kv.1 ≠ name m.2.next)) ∧
    (∀ c, sessionRefusal cfg (stOf m) b id = some c → r.2 = .reply c ∧ (c = 401 ∨ c = 400) ∧ r.1 = g) := by
  obtain ⟨hc, hI⟩ := reach name hinj cfg ords hords ttl host secret port chan pre
  exact session_at hinj ord hord hc hI b id

/-! ## C02 — every code string is exchanged successfully at most once, whatever else happens -/

/-- is `o`, the observation of `ev`, a successful exchange of the string `k`? -/
def isOkExch (k : String) : ApiEv → Out → Bool
  | .exchange k', .token _ _ => decide (k' = k)
  | _, _ => false

/-- successful exchanges of `k` in a history, read off the observations -/
def okExch (k : String) : List ApiEv → List Out → Nat
  | ev :: evs, o :: os => (if isOkExch k ev o then 1 else 0) + okExch k evs os
  | _, _ => 0

theorem isOkExch_true {k : String} {ev : ApiEv} {o : Out} (h : isOkExch k ev o = true) :
    ev = .exchange k ∧ ∃ b t, o = .token b t := by
  cases ev with
  | exchange k' =>
    cases o with
    | token b t => exact ⟨congrArg ApiEv.exchange (of_decide_eq_true h), b, t, rfl⟩
    | _ => cases h
  | _ => cases h

theorem isOkExch_equiv (k : String) (ev : ApiEv) {a b : Out} (h : Out.Equiv a b) : isOkExch k ev a = isOkExch k ev b := by
  rcases h with h | ⟨c, l, l', h1, h2, _⟩
  · rw [h]
  · subst h1; subst h2; cases ev <;> rfl

theorem okExch_equiv (k : String) (evs : List ApiEv) {os os' : List Out} (h : OutsEquiv os os') :
    okExch k evs os = okExch k evs os' := by
  induction h generalizing evs with
  | nil => rfl
  | cons h1 _ ih =>
    cases evs with
    | nil => rfl
    | cons ev evs => simp only [okExch]; rw [isOkExch_equiv k ev h1, ih]

theorem codes_run (P : TtlCode.Store → Prop)
    (hP : ∀ s op, P s → P (TtlCode.step s op).1) (evs : List ApiEv) (m : M) (h : P m.2) :
    P (modelApiRun name cfg m evs).1.2 := by
  induction evs generalizing m with
  | nil => exact h
  | cons ev evs ih => exact ih _ (codes_step h fun op _ => hP m.2 op h)

/-- the code store's own history inside a history of the API started in `m` -/
def codeOps (name : Nat → String) (cfg : Access.Config) : M → List ApiEv → List TtlCode.Op
  | _, [] => []
  | m, ev :: evs => (codeOp name cfg m ev).toList ++ codeOps name cfg (modelApiStep name cfg m ev).1 evs

theorem okExch_eq_successes (hinj : Function.Injective name) (c : Nat)
    (evs : List ApiEv) (m : M) :
    okExch (name c) evs (modelApiRun name cfg m evs).2 = TtlCode.successes c m.2 (codeOps name cfg m evs) := by
  -- one event: observed as a successful exchange of `name c` exactly when its code-store operation is one of `c`
  have hstep : ∀ (m : M) (ev : ApiEv), isOkExch (name c) ev (modelApiStep name cfg m ev).2 =
      (codeOp name cfg m ev).elim false (fun op => TtlCode.isOkExchange c (op, (TtlCode.step m.2 op).2)) := by
    intro m ev
    cases ev with
    | exchange str =>
      simp only [modelApiStep, codeOp]
      cases hf : findS name m.2.entries str with
      | none => rfl
      | some e =>
        obtain rfl := (findS_some _ _ _ hf).2
        simp only [Option.map_some, Option.elim_some]
        generalize (TtlCode.step m.2 (.exchange e.code)).2 = o
        cases o with
        | token b t => exact decide_eq_decide.2 hinj.eq_iff
        | _ => rfl
    | session b id => simp only [codeOp]; split <;> rfl
    | deny t b e => simp only [codeOp]; split <;> rfl
    | _ => rfl
  induction evs generalizing m with
  | nil => rfl
  | cons ev evs ih =>
    simp only [modelApiRun, okExch, codeOps]
    rw [ih, hstep, model_codes]
    cases codeOp name cfg m ev with
    | none => exact Nat.zero_add _
    | some op => rfl

theorem okExch_unknown (k : String) (hk : ∀ n, name n ≠ k) (evs : List ApiEv) (m : M) :
    okExch k evs (modelApiRun name cfg m evs).2 = 0 := by
  induction evs generalizing m with
  | nil => rfl
  | cons ev evs ih =>
    simp only [modelApiRun, okExch]
    rw [ih]
    cases h : isOkExch k ev (modelApiStep name cfg m ev).2 with
    | false => rfl
    | true =>
      obtain ⟨rfl, b, t, ho⟩ := isOkExch_true h
      rw [model_exchange_unknown k hk] at ho
      cases ho

/-- **C02 for the code as translated today, inside the access API**: in EVERY history of session / deny / allow / list calls,
    clock moves, prunes, sweeps and exchanges performed with the translated functions — any injective uuid naming, any map
    iteration orders — every string is exchanged successfully at most once. -/
theorem translated_code_single_use (name : Nat → String) (hinj : Function.Injective name) (cfg : Access.Config)
    (ords : Nat → Ord) (hords : ∀ i, OrdOk (ords i)) (ttl : Int) (host secret : String) (port : Int) (chan : Go.Chan)
    (evs : List ApiEv) (k : String) :
    okExch k evs (genApiRun name ords 0 (gen0 cfg ttl host secret port chan) evs).2 ≤ 1 := by
  obtain ⟨_, _, _, h, _⟩ := api_run_tie name hinj cfg ords hords ttl host secret port chan evs
  rw [okExch_equiv k evs h]
  by_cases hk : ∃ c, name c = k
  · obtain ⟨c, rfl⟩ := hk
    rw [okExch_eq_successes hinj]
    exact TtlCode.successes_le_one c _ _ (inv0 ttl).codes.1
  · rw [okExch_unknown k (fun n h => hk ⟨n, h⟩)]
    omega

/-! ## C07, sequential part — an acknowledged cancellation takes effect and stays in effect -/

/-- events that do not lift the cancellation of `b` (denied until `e`): no admin allows `b`, no admin re-denies `b` with an
    earlier expiry, the clock does not pass `e`. Everything else — sessions by anybody, other bookings, prunes, sweeps, lists,
    exchanges — is unrestricted. -/
def QuietEv (b : String) (e : Int) : ApiEv → Prop
  | .allow t b' _ => ¬ (isRelayAdmin t = true ∧ b' = b)
  | .deny t b' e' => isRelayAdmin t = true → b' = b → e ≤ e'
  | .setNow n => n ≤ e
  | _ => True

/-- `b` is on the deny list with an expiry of at least `e`, which the clock has not passed: the pruner will not reach it -/
def DeniedUntil (b : String) (e : Int) (r : Deny.Reg) : Prop := (∃ x, KV.lookup r.deny b = some x ∧ e ≤ x) ∧ r.now ≤ e

/-- the store operations that leave it so (`QuietEv`, at the level of `deny.Store`) -/
def QuietOp (b : String) (e : Int) : Deny.Op → Prop
  | .allow b' _ => b' ≠ b
  | .deny b' e' => b' = b → e ≤ e'
  | .setNow n => n ≤ e
  | .prune => True
  | _ => False

theorem deniedUntil_step {b : String} {e : Int} {r : Deny.Reg} (hnd : KV.NoDupKeys r.deny) (h : DeniedUntil b e r)
    (op : Deny.Op) (hq : QuietOp b e op) : DeniedUntil b e (Deny.step r op) := by
  obtain ⟨⟨x, hx, hex⟩, hnow⟩ := h
  cases op with
  | allow b' e' => exact ⟨⟨x, (KV.lookup_erase_ne _ hq).trans hx, hex⟩, hnow⟩
  | deny b' e' =>
    by_cases hbb : b' = b
    · subst hbb
      exact ⟨⟨e', KV.lookup_insert_self _ _ _, hq rfl⟩, hnow⟩
    · exact ⟨⟨x, (KV.lookup_insert_ne _ _ hbb).trans hx, hex⟩, hnow⟩
  | setNow n => exact ⟨⟨x, hx, hex⟩, hq⟩
  | prune =>
    -- the entry survives the sweep because its expiry is not before the clock
    refine ⟨⟨x, ?_, hex⟩, hnow⟩
    have : ¬ x < r.now := by omega
    simp [Deny.step, KV.lookup_keep_of_nodup _ _ _ hnd, hx, Deny.fresh, this]
  | denyReq _ _ => exact hq.elim
  | allowReq _ _ => exact hq.elim

/-- the invariant an acknowledged deny of `b` until `e` establishes and `QuietEv` events keep -/
def Cancelled (b : String) (e : Int) (m : M) : Prop := DeniedUntil b e m.1 ∧ ∀ en ∈ m.2.entries, en.bid ≠ b

theorem cancelled_denied {b : String} {e : Int} {m : M} (h : Cancelled b e m) : Deny.isDenied m.1 b = true := by
  obtain ⟨⟨⟨x, hx, _⟩, _⟩, _⟩ := h
  simp [Deny.isDenied, KV.has, hx]

theorem cancelled_after_deny (t : Bearer) (b : String) (e : Int)
    (ha : isRelayAdmin t = true) (hb : b ≠ "") (he : ¬ e < m.1.now) :
    Cancelled b e (modelApiStep name cfg m (.deny t b e)).1 := by
  rw [model_deny, if_pos ((adminGuard_eq_204 t b e m.1.now).2 ⟨ha, hb, he⟩)]
  refine ⟨⟨⟨e, KV.lookup_insert_self _ _ _, Int.le_refl _⟩, Int.not_lt.1 he⟩, fun en hen => ?_⟩
  simpa using ((TtlCode.mem_keepIf _ _ _).1 hen).2

theorem regOp_quiet {b : String} {e : Int} {ev : ApiEv} {op : Deny.Op}
    (hden : Deny.isDenied m.1 b = true) (hq : QuietEv b e ev) (hop : regOp cfg m ev = some op) : QuietOp b e op := by
  cases ev with
  | session bb id =>
    -- a granted session allows its booking, and is granted only for a booking that is not denied
    obtain ⟨hr, h⟩ := Option.ite_none_right_eq_some.1 hop
    cases h
    intro hbb
    cases (hbb ▸ grant_not_denied hr).symm.trans hden
  | deny t b' e' =>
    obtain ⟨hg, h⟩ := Option.ite_none_right_eq_some.1 hop
    cases h
    exact hq hg.1
  | allow t b' e' =>
    obtain ⟨hg, h⟩ := Option.ite_none_right_eq_some.1 hop
    cases h
    exact fun hbb => hq ⟨hg.1, hbb⟩
  | setNow n => cases hop; exact hq
  | prune => cases hop; trivial
  | _ => cases hop

theorem codeOp_no_submit {b : String} {ev : ApiEv} {op : TtlCode.Op} (hden : Deny.isDenied m.1 b = true)
    (hop : codeOp name cfg m ev = some op) (tok : Nat) : op ≠ .submit b tok := by
  rintro rfl
  cases ev with
  | session bb id =>
    obtain ⟨hr, h⟩ := Option.ite_none_right_eq_some.1 hop
    cases h
    cases (grant_not_denied hr).symm.trans hden
  | deny t b' e' => cases (Option.ite_none_right_eq_some.1 hop).2
  | exchange str =>
    obtain ⟨en, _, h⟩ := Option.map_eq_some_iff.1 hop
    cases h
  | _ => cases hop

theorem cancelled_step (hI : Inv m) {b : String} {e : Int} (h : Cancelled b e m) (ev : ApiEv) (hq : QuietEv b e ev) :
    Cancelled b e (modelApiStep name cfg m ev).1 :=
  have hden := cancelled_denied h
  ⟨reg_step h.1 fun op hop => deniedUntil_step hI.reg.ndd h.1 op (regOp_quiet hden hq hop),
    codes_step (P := fun s => ∀ en ∈ s.entries, en.bid ≠ b) h.2 fun op hop => TtlCode.nobid_step m.2 op b (codeOp_no_submit hden hop) h.2⟩

theorem cancelled_run {b : String} {e : Int} (evs : List ApiEv) (m : M) (hI : Inv m) (h : Cancelled b e m)
    (hq : ∀ ev ∈ evs, QuietEv b e ev) : Cancelled b e (modelApiRun name cfg m evs).1 := by
  induction evs generalizing m with
  | nil => exact h
  | cons ev evs ih =>
    exact ih _ (inv_step hI ev) (cancelled_step hI h ev (hq ev List.mem_cons_self))
      (fun ev' h' => hq ev' (List.mem_cons_of_mem _ h'))

theorem exchOutM_token {o : TtlCode.Out} {b : String} {t : Nat} (h : exchOutM o = .token b t) : o = .token b t := by
  cases o with
  | token b' t' => cases h; rfl
  | _ => cases h

theorem cancelled_no_token {b : String} {e : Int} (h : Cancelled b e m)
    (k : String) (tok : Nat) : (modelApiStep name cfg m (.exchange k)).2 ≠ .token b tok := by
  simp only [modelApiStep]
  cases hf : findS name m.2.entries k with
  | none => nofun
  | some en =>
    intro hh
    obtain ⟨e', hf', _, hbid, _⟩ := (TtlCode.exchange_token_iff m.2 en.code b tok).1 (exchOutM_token hh)
    exact h.2 e' (TtlCode.find_some _ _ _ hf').1 hbid

/-- the translated deny handler acknowledges (204, one notification) exactly an admin's request for a non-empty booking id whose
    expiry is not before the clock (the last `setNow` of the history) -/
theorem translated_deny_acked_iff (name : Nat → String) (hinj : Function.Injective name) (cfg : Access.Config)
    (ords : Nat → Ord) (hords : ∀ i, OrdOk (ords i)) (ttl : Int) (host secret : String) (port : Int) (chan : Go.Chan)
    (pre : List ApiEv) (ord : Ord) (hord : OrdOk ord) (t : Bearer) (b : String) (e : Int) :
    let g := (genApiRun name ords 0 (gen0 cfg ttl host secret port chan) pre).1
    ((∃ l, (genApiStep name ord g (.deny t b e)).2 = .denyReply 204 l) ↔ (isRelayAdmin t = true ∧ b ≠ "" ∧ ¬ e < clockOf 0 pre)) ∧
    ((isRelayAdmin t = true ∧ b ≠ "" ∧ ¬ e < clockOf 0 pre) → (genApiStep name ord g (.deny t b e)).2 = .denyReply 204 [b]) := by
  obtain ⟨hc, hI⟩ := reach name hinj cfg ords hords ttl host secret port chan pre
  have hnow : (modelApiRun name cfg (m0 ttl) pre).1.1.now = clockOf 0 pre := model_now_run pre (m0 ttl)
  have heq := (api_step_tie name hinj cfg ord hord _ _ hc hI (.deny t b e)).2.eq_of_not_ids (by
    rw [model_deny]; split <;> nofun)
  simp only
  rw [heq, model_deny, hnow, ← adminGuard_eq_204]
  by_cases hg : adminGuard t b e (clockOf 0 pre) = 204 <;> simp [hg]

/-- **C07 (sequential part) for the code as translated today.** Take ANY history `pre`, then a deny of booking `b` until `e` that the
    translated handler acknowledges (an admin bearer, `b ≠ ""`, `e` not before the clock), then ANY events `mid` among which no
    admin allows `b`, no admin re-denies `b` with an expiry before `e`, and the clock is not moved beyond `e` (`QuietEv`: sessions
    by anybody for any booking, prunes, sweeps, lists, exchanges, other bookings' denies and allows are unrestricted). Then in the
    translated configuration reached: `b` is on the deny list (pruning did not resurrect it); the code store holds no code for
    `b`; EVERY session request of a bearer with booking `b` is refused (400 when nothing else is wrong with it, else the earlier
    guard's 401), mints nothing and changes nothing; and NO exchange, of any string, yields a token of booking `b` — in
    particular every code issued for `b` before the deny is refused. -/
theorem translated_cancel_sticks_sequential (name : Nat → String) (hinj : Function.Injective name) (cfg : Access.Config)
    (ords : Nat → Ord) (hords : ∀ i, OrdOk (ords i)) (ttl : Int) (host secret : String) (port : Int) (chan : Go.Chan)
    (pre mid : List ApiEv) (t : Bearer) (b : String) (e : Int)
    (hadm : isRelayAdmin t = true) (hb : b ≠ "") (he : ¬ e < clockOf 0 pre) (hq : ∀ ev ∈ mid, QuietEv b e ev) :
    let g := (genApiRun name ords 0 (gen0 cfg ttl host secret port chan) (pre ++ .deny t b e :: mid)).1
    (∀ w : Go.World, Gen.deny.Store.IsDenied w g.cfg.DenyStore b = true) ∧
    (∀ kv ∈ g.cfg.CodeStore.store, kv.2.Token.BookingID ≠ b) ∧
    (∀ ord : Ord, OrdOk ord → ∀ (bb : Bearer) (id : String), bb.bid = b →
      ∃ c, (genApiStep name ord g (.session bb id)).2 = .reply c ∧ (c = 401 ∨ c = 400) ∧ (genApiStep name ord g (.session bb id)).1 = g ∧
        (hasRequiredClaims bb = true → (bb.iat.isNone || bb.nbf.isNone) = false → bb.topic = id → c = 400)) ∧
    (∀ ord : Ord, OrdOk ord → ∀ (k : String) (tok : Nat), (genApiStep name ord g (.exchange k)).2 ≠ .token b tok) := by
  obtain ⟨hc, hI⟩ := reach name hinj cfg ords hords ttl host secret port chan (pre ++ .deny t b e :: mid)
  obtain ⟨_, hIpre⟩ := reach name hinj cfg ords hords ttl host secret port chan pre
  have hcan : Cancelled b e (modelApiRun name cfg (m0 ttl) (pre ++ .deny t b e :: mid)).1 := by
    rw [modelApiRun_append_state]
    exact cancelled_run mid _ (inv_step hIpre _)
      (cancelled_after_deny t b e hadm hb (by rw [model_now_run]; exact he)) hq
  generalize (modelApiRun name cfg (m0 ttl) (pre ++ .deny t b e :: mid)).1 = m at hc hI hcan
  generalize (genApiRun name ords 0 (gen0 cfg ttl host secret port chan) (pre ++ .deny t b e :: mid)).1 = g at hc
  have hden := cancelled_denied hcan
  refine ⟨?_, ?_, ?_, ?_⟩
  · intro w
    rw [hc.cfg.stores.reg]
    exact hden
  · rw [hc.cfg.stores.codes]
    intro kv hkv
    obtain ⟨en, hen, rfl⟩ := List.mem_map.1 hkv
    exact hcan.2 en hen
  · intro ord hord bb id hbb
    obtain ⟨⟨c, hr⟩, h400⟩ := denied_refused cfg (stOf m) bb id (hbb ▸ hden)
    obtain ⟨_, _, hrefused⟩ := session_at hinj ord hord hc hI bb id
    obtain ⟨h1, h2, h3⟩ := hrefused c hr
    exact ⟨c, h1, h2, h3, fun a1 a2 a3 => Option.some.inj (hr.symm.trans (h400 a1 a2 a3))⟩
  · intro ord hord k tok hh
    rcases (api_step_tie name hinj cfg ord hord g m hc hI (.exchange k)).2 with heq | ⟨c, l, l', h1, _, _⟩
    · exact cancelled_no_token hcan k tok (heq.symm.trans hh)
    · rw [hh] at h1; cases h1

/-! ### … and the purge of the booking's codes is permanent: no quiet period needed -/

theorem old_code_dead (hI : Inv m) (bb : Bearer) (id : String)
    (hr : sessionRefusal cfg (stOf m) bb id = none) (mid post : List ApiEv) (t : Bearer) (e : Int)
    (hadm : isRelayAdmin t = true) (hb : bb.bid ≠ "")
    (he : ¬ e < (modelApiRun name cfg m (.session bb id :: mid)).1.1.now) :
    TtlCode.Dead (modelApiRun name cfg m (.session bb id :: (mid ++ .deny t bb.bid e :: post))).1.2 m.2.next := by
  simp only [modelApiRun, modelApiRun_append_state] at he ⊢
  -- until the deny every stored entry with the new code belongs to the booking (`TtlCode.BidIs`),
  -- so the purge removes it; a dead code stays dead
  refine codes_run (TtlCode.Dead · m.2.next) (fun s op => TtlCode.dead_step s op _) post _ ?_
  have h2 : m.2.next < (modelApiStep name cfg m (.session bb id)).1.2.next ∧
      TtlCode.BidIs (modelApiStep name cfg m (.session bb id)).1.2 m.2.next bb.bid := by
    simp only [modelApiStep, hr, TtlCode.step]
    refine ⟨Nat.lt_succ_self _, fun en hen hcode => ?_⟩
    rcases List.mem_cons.1 hen with rfl | hen
    · rfl
    · exact absurd hcode (Nat.ne_of_lt (hI.codes.1 en hen))
  obtain ⟨h3, h4⟩ := codes_run (fun s => m.2.next < s.next ∧ TtlCode.BidIs s m.2.next bb.bid)
    (fun s op h => ⟨Nat.lt_of_lt_of_le h.1 (TtlCode.next_mono_step s op), TtlCode.bidis_step s op _ _ h.1 h.2⟩) mid _ h2
  rw [model_deny, if_pos ((adminGuard_eq_204 t bb.bid e _).2 ⟨hadm, hb, he⟩)]
  refine ⟨h3, fun en hen hcode => ?_⟩
  obtain ⟨hmem, hbid⟩ := (TtlCode.mem_keepIf _ _ _).1 hen
  exact (by simpa using hbid : en.bid ≠ bb.bid) (h4 en hmem hcode)

/-- **every code issued for `b` before an acknowledged deny of `b` is refused ever after** — whatever happens in between and
    afterwards (allows, re-denies, clock moves: the purge of the code store is permanent). `k` is the uuid the generator handed to
    the granted session request (`name` of the generator's counter at that point; it is the code in the URI of the 200 reply,
    `translated_session_grant_iff`). -/
theorem translated_old_code_refused (name : Nat → String) (hinj : Function.Injective name) (cfg : Access.Config)
    (ords : Nat → Ord) (hords : ∀ i, OrdOk (ords i)) (ttl : Int) (host secret : String) (port : Int) (chan : Go.Chan)
    (pre1 pre2 post : List ApiEv) (bb : Bearer) (id : String) (t : Bearer) (e : Int)
    (ord1 : Ord) (hord1 : OrdOk ord1)
    (hgrant : ∃ u, (genApiStep name ord1 (genApiRun name ords 0 (gen0 cfg ttl host secret port chan) pre1).1 (.session bb id)).2 = .uri 200 u)
    (hadm : isRelayAdmin t = true) (hb : bb.bid ≠ "") (he : ¬ e < clockOf 0 (pre1 ++ .session bb id :: pre2))
    (ord : Ord) (hord : OrdOk ord) :
    let k := name (genApiRun name ords 0 (gen0 cfg ttl host secret port chan) pre1).1.next
    let g := (genApiRun name ords 0 (gen0 cfg ttl host secret port chan) (pre1 ++ .session bb id :: (pre2 ++ .deny t bb.bid e :: post))).1
    (genApiStep name ord g (.exchange k)).2 = .invalid := by
  obtain ⟨hc1, hI1⟩ := reach name hinj cfg ords hords ttl host secret port chan pre1
  obtain ⟨hc, hI⟩ := reach name hinj cfg ords hords ttl host secret port chan (pre1 ++ .session bb id :: (pre2 ++ .deny t bb.bid e :: post))
  obtain ⟨hiff, _⟩ := session_at hinj ord1 hord1 hc1 hI1 bb id
  have hr := hiff.mp hgrant
  have hdead := old_code_dead hI1 bb id hr pre2 post t e hadm hb (by
    rw [← modelApiRun_append_state, model_now_run]; exact he)
  rw [← modelApiRun_append_state, ← hc1.next] at hdead
  generalize (modelApiRun name cfg (m0 ttl) (pre1 ++ .session bb id :: (pre2 ++ .deny t bb.bid e :: post))).1 = m at hc hI hdead
  generalize (genApiRun name ords 0 (gen0 cfg ttl host secret port chan) pre1).1.next = c at hdead ⊢
  -- the model refuses a dead code, and the translated step is observed as the model's
  have hout : (modelApiStep name cfg m (.exchange (name c))).2 = .invalid := by
    rw [model_exchange_name hinj, TtlCode.dead_exchange_invalid m.2 c hdead]
    rfl
  have heq := (api_step_tie name hinj cfg ord hord _ m hc hI (.exchange (name c))).2.eq_of_not_ids (by rw [hout]; nofun)
  exact heq.trans hout

/-! ## C09 — only the admin scope mutates the deny list

Finding K1 (a session request racing a deny can erase it: `Store.Allow` deletes the deny entry) has NO sequential shadow: when
the handlers run one after the other, the session handler reaches its `Allow` only for a booking that is not on the deny
list, so the deny list after any history is a function of the admin-granted deny / allow requests, the clock and the pruner
alone (`translated_deny_list_determined_by_admin`); sessions by anybody, lists, sweeps and exchanges never change it. -/

/-- the deny-list relevant part of a history: the admin-authorised requests (with the handlers' parameter guards, `Deny.Op.denyReq`
    / `allowReq`), the clock and the pruner. Sessions, requests without the admin scope, lists, sweeps and exchanges are dropped. -/
def adminOps : List ApiEv → List Deny.Op
  | [] => []
  | .deny t b e :: evs => if isRelayAdmin t = true then .denyReq b e :: adminOps evs else adminOps evs
  | .allow t b e :: evs => if isRelayAdmin t = true then .allowReq b e :: adminOps evs else adminOps evs
  | .setNow n :: evs => .setNow n :: adminOps evs
  | .prune :: evs => .prune :: adminOps evs
  | _ :: evs => adminOps evs

theorem session_keeps_deny_list (name : Nat → String) (cfg : Access.Config) (m : M) (b : Bearer) (id : String) :
    (modelApiStep name cfg m (.session b id)).1.1.deny = m.1.deny := by
  cases hr : sessionRefusal cfg (stOf m) b id with
  | some c => simp [modelApiStep, hr]
  | none =>
    have hnd := grant_not_denied hr
    have : KV.lookup m.1.deny b.bid = none := by
      simpa [Deny.isDenied, KV.has, stOf] using hnd
    simp only [modelApiStep, hr, Deny.step]
    exact KV.erase_absent _ _ this

theorem adminOps_cons (ev : ApiEv) (evs : List ApiEv) : adminOps (ev :: evs) = adminOps [ev] ++ adminOps evs := by
  cases ev with
  | deny t b e => exact (apply_ite (· ++ adminOps evs) (isRelayAdmin t = true) [.denyReq b e] []).symm
  | allow t b e => exact (apply_ite (· ++ adminOps evs) (isRelayAdmin t = true) [.allowReq b e] []).symm
  | _ => rfl

/-- `r` need not be the model's register: sessions note bookings on the allow list, which `adminOps` drops, so the two agree on
    deny list and clock only -/
theorem deny_list_step (ev : ApiEv) (r : Deny.Reg) (hd : m.1.deny = r.deny) (hn : m.1.now = r.now) :
    (modelApiStep name cfg m ev).1.1.deny = (Deny.run (adminOps [ev]) r).deny ∧
    (modelApiStep name cfg m ev).1.1.now = (Deny.run (adminOps [ev]) r).now := by
  cases ev with
  | session b id => exact ⟨(session_keeps_deny_list name cfg m b id).trans hd, (model_now_step _).trans hn⟩
  | deny t b e =>
    -- the handler's guards in the model, `denyReq`'s own in `r`
    rw [model_deny]
    by_cases ha : isRelayAdmin t = true
    · by_cases hb : b = "" <;> by_cases he : e < r.now <;> simp [adminOps, adminGuard, Deny.run, Deny.step, ha, hb, he, hd, hn]
    · simp [adminOps, adminGuard, Deny.run, ha, hd, hn]
  | allow t b e =>
    rw [model_allow]
    by_cases ha : isRelayAdmin t = true
    · by_cases hb : b = "" <;> by_cases he : e < r.now <;> simp [adminOps, adminGuard, Deny.run, Deny.step, ha, hb, he, hd, hn]
    · simp [adminOps, adminGuard, Deny.run, ha, hd, hn]
  | listDenied t => rw [model_listDenied]; exact ⟨hd, hn⟩
  | listAllowed t => rw [model_listAllowed]; exact ⟨hd, hn⟩
  | setNow n => exact ⟨hd, rfl⟩
  | prune =>
    refine ⟨?_, hn⟩
    show KV.keep (Deny.fresh m.1.now) m.1.deny = KV.keep (Deny.fresh r.now) r.deny
    rw [hd, hn]
  | sweep => exact ⟨hd, hn⟩
  | exchange k => exact ⟨(congrArg Deny.Reg.deny (model_reg name cfg m _)).trans hd, (model_now_step _).trans hn⟩

theorem deny_list_run (evs : List ApiEv) (m : M) (r : Deny.Reg) (hd : m.1.deny = r.deny) (hn : m.1.now = r.now) :
    (modelApiRun name cfg m evs).1.1.deny = (Deny.run (adminOps evs) r).deny := by
  induction evs generalizing m r with
  | nil => exact hd
  | cons ev evs ih =>
    obtain ⟨hd', hn'⟩ := deny_list_step (name := name) (cfg := cfg) ev r hd hn
    rw [adminOps_cons, Deny.run, List.foldl_append]
    exact ih _ _ hd' hn'

/-- **C09 for the code as translated today, over all histories**: the deny list held by the translated configuration after ANY
    history is the deny list of the register model run on the admin-authorised deny / allow requests, clock moves and prunes of
    that history alone. Whatever bearers without `relay:admin` send to `/bids/deny` or `/bids/allow`, and whatever sessions
    anybody requests, has no influence on it. -/
theorem translated_deny_list_determined_by_admin (name : Nat → String) (hinj : Function.Injective name) (cfg : Access.Config)
    (ords : Nat → Ord) (hords : ∀ i, OrdOk (ords i)) (ttl : Int) (host secret : String) (port : Int) (chan : Go.Chan)
    (evs : List ApiEv) :
    (genApiRun name ords 0 (gen0 cfg ttl host secret port chan) evs).1.cfg.DenyStore.DenyList = (Deny.run (adminOps evs)).deny := by
  obtain ⟨hc, _⟩ := reach name hinj cfg ords hords ttl host secret port chan evs
  rw [hc.cfg.stores.reg]
  exact deny_list_run evs (m0 ttl) {} rfl rfl

theorem adminOps_without_deny (evs : List ApiEv) (h : ∀ t b e, ApiEv.deny t b e ∈ evs → isRelayAdmin t = false)
    (r : Deny.Reg) (hr : r.deny = []) : (Deny.run (adminOps evs) r).deny = [] := by
  induction evs generalizing r with
  | nil => exact hr
  | cons ev evs ih =>
    have ih' := ih (fun t b e hm => h t b e (List.mem_cons_of_mem _ hm))
    cases ev with
    | deny t b e =>
      simp only [adminOps, h t b e List.mem_cons_self]
      exact ih' r hr
    | allow t b e =>
      simp only [adminOps]
      split
      · -- refused for its parameters, or erasing from the empty deny list
        refine ih' _ ?_
        by_cases hp : b = "" ∨ e < r.now
        · obtain ⟨_, hallow, _⟩ := Deny.bad_params_noop r b e hp
          rw [hallow]
          exact hr
        · obtain ⟨_, hallow, _⟩ := Deny.good_params_act r b e (fun h => hp (.inl h)) (fun h => hp (.inr h))
          rw [hallow]
          exact congrArg (KV.erase · b) hr
      · exact ih' r hr
    | setNow n => exact ih' _ hr
    | prune => exact ih' _ (by simp [Deny.step, hr, KV.keep])
    | _ => exact ih' r hr

/-- … in particular: a history in which no `/bids/deny` request carries a bearer with `relay:admin` (and the required claims)
    leaves the translated deny list empty, whatever else is in it. -/
theorem translated_only_admin_mutates_deny_list (name : Nat → String) (hinj : Function.Injective name) (cfg : Access.Config)
    (ords : Nat → Ord) (hords : ∀ i, OrdOk (ords i)) (ttl : Int) (host secret : String) (port : Int) (chan : Go.Chan)
    (evs : List ApiEv) (h : ∀ t b e, ApiEv.deny t b e ∈ evs → isRelayAdmin t = false) :
    (genApiRun name ords 0 (gen0 cfg ttl host secret port chan) evs).1.cfg.DenyStore.DenyList = [] := by
  rw [translated_deny_list_determined_by_admin name hinj cfg ords hords ttl host secret port chan evs]
  exact adminOps_without_deny evs h {} rfl

/-- … and every single step: the translated deny list changes only at an admin's deny / allow or at a prune -/
theorem translated_deny_list_step (name : Nat → String) (hinj : Function.Injective name) (cfg : Access.Config)
    (ords : Nat → Ord) (hords : ∀ i, OrdOk (ords i)) (ttl : Int) (host secret : String) (port : Int) (chan : Go.Chan)
    (pre : List ApiEv) (ord : Ord) (hord : OrdOk ord) (ev : ApiEv)
    (hev : ∀ t b e, (ev = .deny t b e ∨ ev = .allow t b e) → isRelayAdmin t = false) (hp : ev ≠ .prune) :
    let g := (genApiRun name ords 0 (gen0 cfg ttl host secret port chan) pre).1
    (genApiStep name ord g ev).1.cfg.DenyStore.DenyList = g.cfg.DenyStore.DenyList := by
  obtain ⟨hc, hI⟩ := reach name hinj cfg ords hords ttl host secret port chan pre
  have h1 := (api_step_tie name hinj cfg ord hord _ _ hc hI ev).1
  simp only
  rw [h1.cfg.stores.reg, hc.cfg.stores.reg]
  show (modelApiStep name cfg _ ev).1.1.deny = _
  cases ev with
  | session b id => exact session_keeps_deny_list name cfg _ b id
  | deny t b e => simp only [model_reg, regOp, hev t b e (Or.inl rfl), Bool.false_eq_true, false_and, if_false]; rfl
  | allow t b e => simp only [model_reg, regOp, hev t b e (Or.inr rfl), Bool.false_eq_true, false_and, if_false]; rfl
  | prune => exact absurd rfl hp
  | _ => rw [model_reg]; rfl

/-! ## Non-vacuity: a concrete history, evaluated with the translated handlers

uuids are `k`, `kk`, `kkk`, …; even-numbered calls range over maps front to back, odd-numbered ones back to front. -/

def xName (n : Nat) : String := String.ofList (List.replicate (n + 1) 'k')

theorem xName_inj : Function.Injective xName := by
  intro a b h
  have := congrArg String.length h
  simp [xName] at this
  exact this

def xCfg : Access.Config := { host := "https://a", target := "wss://r" }
def xUser : Bearer := { exp := some 200, nbf := some 50, iat := some 50, aud := ["https://a"], scopes := ["read"],
                        topic := "t", pfx := "session", bid := "b1" }
def xAdmin : Bearer := { exp := some 200, aud := ["https://a"], scopes := ["relay:admin"] }
def xOrds : Nat → Ord := fun i {_} l => if i % 2 = 0 then l else l.reverse

theorem xOrds_ok : ∀ i, OrdOk (xOrds i) := by
  intro i α m
  simp only [xOrds]
  split
  · exact List.Perm.refl _
  · exact List.reverse_perm _

def xG0 : GA := gen0 xCfg 30 "relay-access" "secret" 10000 7

/-- two sessions; a deny without the admin scope (401); the admin's deny (204, one notification); a refused session (400); the
    first session's code, purged, is refused; the lists; the admin's allow; a session that succeeds again; a prune; the new code
    exchanged once, and refused the second time; the lists again; a list request without the admin scope -/
def xHistory : List ApiEv :=
  [.setNow 100, .session xUser "t", .session xUser "t", .deny xUser "b1" 150, .deny xAdmin "b1" 150,
   .session xUser "t", .exchange "k", .listDenied xAdmin, .allow xAdmin "b1" 150, .session xUser "t", .prune,
   .exchange "kkk", .exchange "kkk", .listAllowed xAdmin, .listDenied xAdmin, .listDenied xUser]

def xOuts : List Out :=
  [.done, .uri 200 "wss://r/session/t?code=k", .uri 200 "wss://r/session/t?code=kk", .denyReply 401 [], .denyReply 204 ["b1"],
   .reply 400, .invalid, .ids 200 ["b1"], .reply 204, .uri 200 "wss://r/session/t?code=kkk", .done,
   .token "b1" (Go.tokenId (mintedToken "wss://r" xUser "t")), .invalid, .ids 200 ["b1"], .ids 200 [], .reply 401]

theorem xHistory_translated : (genApiRun xName xOrds 0 xG0 xHistory).2 = xOuts := by rfl

theorem xHistory_model : (modelApiRun xName xCfg (m0 30) xHistory).2 = xOuts := by rfl

example : OutsEquiv (genApiRun xName xOrds 0 xG0 xHistory).2 (modelApiRun xName xCfg (m0 30) xHistory).2 :=
  (api_run_tie xName xName_inj xCfg xOrds xOrds_ok 30 _ _ _ _ xHistory).2.2.2.1

/-- C02: the code `kkk` is exchanged successfully exactly once in it (and never more, in any history) -/
example : okExch "kkk" xHistory (genApiRun xName xOrds 0 xG0 xHistory).2 = 1 ∧
    ∀ evs, okExch "kkk" evs (genApiRun xName xOrds 0 xG0 evs).2 ≤ 1 :=
  ⟨by decide +kernel, fun evs => translated_code_single_use xName xName_inj xCfg xOrds xOrds_ok 30 _ _ _ _ evs "kkk"⟩

/-- C01 at the point after the first five events: the user's request is refused with the model's 400, nothing changes -/
example :
    let g := (genApiRun xName xOrds 0 xG0 (xHistory.take 5)).1
    (genApiStep xName (xOrds 5) g (.session xUser "t")).2 = .reply 400 ∧ (genApiStep xName (xOrds 5) g (.session xUser "t")).1 = g := by
  have h := (translated_session_grant_iff xName xName_inj xCfg xOrds xOrds_ok 30 "relay-access" "secret" 10000 7 (xHistory.take 5)
    (xOrds 5) (xOrds_ok 5) xUser "t").2.2 400 (by decide +kernel)
  exact ⟨h.1, h.2.2⟩

/-- C07: after `setNow 100`, two sessions and a non-admin's attempt, the admin's deny of `b1` until 150 — followed by a session request,
    an exchange, a list, a prune: every bearer of `b1` is refused and no string yields a token of `b1` -/
example :
    let g := (genApiRun xName xOrds 0 xG0 (xHistory.take 4 ++ .deny xAdmin "b1" 150 :: [.session xUser "t", .exchange "k", .listDenied xAdmin, .prune])).1
    (∀ ord : Ord, OrdOk ord → ∀ (bb : Bearer) (id : String), bb.bid = "b1" →
      ∃ c, (genApiStep xName ord g (.session bb id)).2 = .reply c ∧ (c = 401 ∨ c = 400) ∧ (genApiStep xName ord g (.session bb id)).1 = g ∧
        (hasRequiredClaims bb = true → (bb.iat.isNone || bb.nbf.isNone) = false → bb.topic = id → c = 400)) ∧
    (∀ ord : Ord, OrdOk ord → ∀ (k : String) (tok : Nat), (genApiStep xName ord g (.exchange k)).2 ≠ .token "b1" tok) :=
  (translated_cancel_sticks_sequential xName xName_inj xCfg xOrds xOrds_ok 30 "relay-access" "secret" 10000 7 (xHistory.take 4)
    [.session xUser "t", .exchange "k", .listDenied xAdmin, .prune] xAdmin "b1" 150 (by decide) (by decide) (by decide)
    (by intro ev hev; simp only [List.mem_cons, List.not_mem_nil, or_false] at hev
        rcases hev with rfl | rfl | rfl | rfl <;> exact trivial)).2.2

/-- … and the first session's code `k` stays refused even after the admin has allowed `b1` again and a new session was granted -/
example :
    let g := (genApiRun xName xOrds 0 xG0
      ([.setNow 100] ++ .session xUser "t" :: ([.session xUser "t", .deny xUser "b1" 150] ++ .deny xAdmin "b1" 150 ::
        [.allow xAdmin "b1" 150, .session xUser "t"]))).1
    (genApiStep xName (xOrds 8) g (.exchange "k")).2 = .invalid :=
  translated_old_code_refused xName xName_inj xCfg xOrds xOrds_ok 30 "relay-access" "secret" 10000 7 [.setNow 100]
    [.session xUser "t", .deny xUser "b1" 150] [.allow xAdmin "b1" 150, .session xUser "t"] xUser "t" xAdmin 150
    (xOrds 1) (xOrds_ok 1) ⟨_, rfl⟩ (by decide) (by decide) (by decide) (xOrds 8) (xOrds_ok 8)

/-- C09: without an admin's deny the deny list stays empty -/
example : (genApiRun xName xOrds 0 xG0 [.setNow 100, .session xUser "t", .deny xUser "b1" 150, .allow xAdmin "b2" 150, .prune]).1.cfg.DenyStore.DenyList = [] :=
  translated_only_admin_mutates_deny_list xName xName_inj xCfg xOrds xOrds_ok 30 _ _ _ _ _ (by
    intro t b e h
    simp only [List.mem_cons, List.not_mem_nil, or_false, reduceCtorEq, false_or, ApiEv.deny.injEq] at h
    obtain ⟨rfl, _, _⟩ := h
    decide)

/-- … and with it, the list is the register model's on the admin-authorised part of the history -/
example : (genApiRun xName xOrds 0 xG0 xHistory).1.cfg.DenyStore.DenyList = [] ∧
    (genApiRun xName xOrds 0 xG0 (xHistory.take 5)).1.cfg.DenyStore.DenyList = [("b1", 150)] ∧
    adminOps xHistory = [.setNow 100, .denyReq "b1" 150, .allowReq "b1" 150, .prune] := ⟨by decide +kernel, by decide +kernel, by rfl⟩

end TieAccessE2E
