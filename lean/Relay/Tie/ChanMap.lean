import Relay.Extracted.GenChanmap
import Relay.Model.ChanMap
import Relay.Props.C08ChanMap
import Relay.Lemmas.RwcKV

/-!
# Tie: the Lean translation of `/repo/internal/chanmap/chanmap.go` (regenerated on every run) simulates the
hand-written model `ChanMap.step`, from every related pair of states, for every argument (`Add`: a non-nil channel)
and every map iteration order.

The Go store is a map of maps plus a reverse map; the model is a flat list of `(parent, child, channel)`
bindings plus the reverse map plus the set of closed channels. They are tied by the simulation relation `R`
(extensional: lookups, not list equality). A translated method returns the log of the channels it closed, in order;
replayed on the model's closed set it must give the model's new closed set (`Sim`; for `DeleteAndCloseParent` only
up to the order of the list, `SimPerm`). The theorems of Props/C08ChanMap are about the model; the theorems below
carry them to the code the translator read today, call by call and over histories (`run_sim`, `history_tie`).

No hypothesis `ChanMap.Inv` is needed: the only model-side fact used (`EntsOk`: at most one binding per
`(parent, child)`) is part of `R`, is implied by `Inv` (`entsOk_of_inv`) and is kept by every model step, with or
without the hub's discipline.
-/

namespace TieChanMap
open ChanMap
open Gen.chanmap

variable {α : Type}

theorem lookup_insert (m : KV α) (k k' : String) (v : α) :
    KV.lookup (KV.insert m k v) k' = if k = k' then some v else KV.lookup m k' :=
  KV.lookup_insert m k k' v

theorem lookup_erase (m : KV α) (k k' : String) :
    KV.lookup (KV.erase m k) k' = if k = k' then none else KV.lookup m k' :=
  KV.lookup_erase m k k'

theorem lookup_eraseAll (m : KV String) (ks : List String) (k : String) :
    KV.lookup (eraseAll m ks) k = if k ∈ ks then none else KV.lookup m k :=
  ChanMap.lookup_eraseAll m ks k

theorem closeAll_of_not_canClose (closed l : List Nat) (h : ¬ CanClose closed l) :
    closeAll closed l = none := by
  induction l generalizing closed with
  | nil => exact absurd ⟨List.nodup_nil, by simp⟩ h
  | cons a l ih =>
    by_cases ha : a ∈ closed
    · simp [closeAll, ha]
    · simp only [closeAll, ha, if_false]
      apply ih
      rintro ⟨hn, hd⟩
      apply h
      refine ⟨List.nodup_cons.2 ⟨fun hmem => hd a hmem List.mem_cons_self, hn⟩, fun x hx => ?_⟩
      rcases List.mem_cons.1 hx with e | e
      · subst e; exact ha
      · exact fun hc => hd x e (List.mem_cons_of_mem _ hc)

theorem canClose_perm {c1 c2 l1 l2 : List Nat} (hc : c1.Perm c2) (hl : l1.Perm l2) :
    CanClose c1 l1 → CanClose c2 l2 :=
  fun ⟨h1, h2⟩ => ⟨hl.nodup_iff.1 h1, fun x hx hx' => h2 x (hl.mem_iff.2 hx) (hc.mem_iff.2 hx')⟩

/-- closing the same channels in another order, starting from the same closed set listed in another order:
    panics in the one iff in the other, and otherwise ends with the same closed set -/
theorem closeAll_perm {c1 c2 l1 l2 : List Nat} (hc : c1.Perm c2) (hl : l1.Perm l2) :
    (closeAll c1 l1 = none ↔ closeAll c2 l2 = none) ∧
    (∀ r2, closeAll c2 l2 = some r2 → ∃ r1, closeAll c1 l1 = some r1 ∧ r1.Perm r2) := by
  by_cases h : CanClose c1 l1
  · have h' := canClose_perm hc hl h
    rw [closeAll_of_canClose _ _ h, closeAll_of_canClose _ _ h']
    refine ⟨by simp, ?_⟩
    intro r2 hr2
    injection hr2 with hr2; subst hr2
    exact ⟨_, rfl, (((List.reverse_perm l1).trans hl).trans (List.reverse_perm l2).symm).append hc⟩
  · have h' : ¬ CanClose c2 l2 := fun x => h (canClose_perm hc.symm hl.symm x)
    rw [closeAll_of_not_canClose _ _ h, closeAll_of_not_canClose _ _ h']
    exact ⟨by simp, by intro r2 hr2; cases hr2⟩

theorem findEnt_filter (q : Ent → Bool) (b : Bool) (es : List Ent) (p c : String)
    (hq : ∀ e : Ent, e.p = p ∧ e.c = c → q e = b) :
    findEnt (es.filter q) p c = if b then findEnt es p c else none := by
  rw [findEnt_eq_find, findEnt_eq_find, List.find?_filter]
  cases b
  · refine List.find?_eq_none.2 fun e _ he => ?_
    obtain ⟨hqe, hkey⟩ := of_decide_eq_true he
    rw [hq e (of_decide_eq_true hkey)] at hqe
    cases hqe
  · refine congrArg (List.find? · es) (funext fun e => ?_)
    by_cases he : e.p = p ∧ e.c = c
    · simp [he, hq e he]
    · simp [he]

theorem findEnt_dropKey (es : List Ent) (p c p' c' : String) :
    findEnt (dropKey es p c) p' c' = if p = p' ∧ c = c' then none else findEnt es p' c' := by
  rw [dropKey, findEnt_filter _ (!decide (p = p' ∧ c = c')) es p' c' (fun e he => by simp [he.1, he.2, eq_comm])]
  by_cases h : p = p' ∧ c = c' <;> simp [h]

theorem findEnt_dropParent (es : List Ent) (p p' c' : String) :
    findEnt (dropParent es p) p' c' = if p = p' then none else findEnt es p' c' := by
  rw [dropParent, findEnt_filter _ (!decide (p = p')) es p' c' (fun e he => by simp [he.1, eq_comm])]
  by_cases h : p = p' <;> simp [h]

/-- the model's flat list holds at most one binding per `(parent, child)` -/
structure EntsOk (es : List Ent) : Prop where
  nodup : es.Nodup
  uniq : ∀ x ∈ es, ∀ y ∈ es, x.p = y.p → x.c = y.c → x = y

theorem entsOk_of_inv (s : St) (h : Inv s) : EntsOk s.ents :=
  ⟨h.n, fun x hx y hy _ hc => h.d x hx y hy (Or.inl hc)⟩

theorem entsOk_filter (q : Ent → Bool) (es : List Ent) (h : EntsOk es) : EntsOk (es.filter q) :=
  ⟨List.Nodup.sublist List.filter_sublist h.nodup,
   fun x hx y hy => h.uniq x (List.mem_filter.1 hx).1 y (List.mem_filter.1 hy).1⟩

theorem entsOk_add (es : List Ent) (p c : String) (ch : Nat) (h : EntsOk es) :
    EntsOk ({ p := p, c := c, ch := ch } :: dropKey es p c) := by
  have h' : EntsOk (dropKey es p c) := entsOk_filter _ es h
  have hnew : ∀ y ∈ dropKey es p c, ¬ (y.p = p ∧ y.c = c) := fun y hy => ((mem_dropKey _ _ _ _).1 hy).2
  refine ⟨List.nodup_cons.2 ⟨fun hmem => hnew _ hmem ⟨rfl, rfl⟩, h'.nodup⟩, ?_⟩
  intro x hx y hy hp hc
  rcases List.mem_cons.1 hx with e1 | e1 <;> rcases List.mem_cons.1 hy with e2 | e2
  · rw [e1, e2]
  · subst e1; exact absurd ⟨hp.symm, hc.symm⟩ (hnew y e2)
  · subst e2; exact absurd ⟨hp, hc⟩ (hnew x e1)
  · exact h'.uniq x e1 y e2 hp hc

theorem findEnt_of_mem (es : List Ent) (h : EntsOk es) (e : Ent) (he : e ∈ es) : findEnt es e.p e.c = some e := by
  cases hf : findEnt es e.p e.c with
  | none => exact absurd ⟨rfl, rfl⟩ (findEnt_none _ _ _ hf e he)
  | some e' =>
    obtain ⟨h1, h2, h3⟩ := findEnt_some _ _ _ _ hf
    rw [h.uniq e' h1 e he h2 h3]

/-! ### what the translated functions compute, in closed form -/

/-- `s.ChildrenByParent[p] = x; if len(x) == 0 { delete(s.ChildrenByParent, p) }` -/
def setDel (cbp : Go.Map (Go.Map Go.Chan)) (p : String) (x : Go.Map Go.Chan) : Go.Map (Go.Map Go.Chan) :=
  if Go.Map.len x = 0 then KV.erase (KV.insert cbp p x) p else KV.insert cbp p x

def childNF (g : Store) (c : String) (close : Bool) : Go.Error × Store × List Go.Chan :=
  match KV.lookup g.ParentByChild c with
  | none => (none, g, [])
  | some p =>
    (none, { ChildrenByParent := setDel g.ChildrenByParent p (KV.erase ((KV.lookup g.ChildrenByParent p).getD []) c),
             ParentByChild := KV.erase g.ParentByChild c },
     if close then (KV.lookup ((KV.lookup g.ChildrenByParent p).getD []) c).toList else [])

theorem child_nf (w : Go.World) (g : Store) (c : String) (close : Bool) (hc : c ≠ "") :
    Store.deleteAndOptionalCloseChild w g c close = childNF g c close := by
  unfold Store.deleteAndOptionalCloseChild childNF
  cases hl : KV.lookup g.ParentByChild c with
  | none => simp [hc, Go.Map.has, KV.has, hl]
  | some p =>
    have hget : Go.Map.get g.ParentByChild c = p := by simp [Go.Map.get, hl]
    have hch : Go.Map.get g.ChildrenByParent p = (KV.lookup g.ChildrenByParent p).getD [] := rfl
    simp only [hc, decide_false, Bool.false_eq_true, if_false, Go.Map.has, KV.has, hl, Option.isSome_some, if_true, hget, hch]
    cases hl2 : KV.lookup ((KV.lookup g.ChildrenByParent p).getD []) c with
    | none =>
      -- the inner map does not bind `c`: Go writes it back as it is, which is what erasing `c` from it gives
      simp only [Option.isSome_none, Bool.false_eq_true, if_false, setDel, Go.Map.set, Go.Map.delete, decide_eq_true_eq,
        KV.erase_absent _ c hl2]
      by_cases hz : Go.Map.len ((KV.lookup g.ChildrenByParent p).getD []) = 0 <;> simp [hz]
    | some ch =>
      have hgc : Go.Map.get ((KV.lookup g.ChildrenByParent p).getD []) c = ch := by simp [Go.Map.get, hl2]
      simp only [Option.isSome_some, if_true, setDel, Go.Map.set, Go.Map.delete, decide_eq_true_eq, hgc, List.nil_append]
      by_cases hz : Go.Map.len (KV.erase ((KV.lookup g.ChildrenByParent p).getD []) c) = 0 <;>
        cases close <;> simp [hz]

/-- the `for child, ch := range children` loop of `deleteAndOptionalCloseParent`, run over any list of entries -/
theorem parent_loop (close : Bool) (l : List (String × Go.Chan)) (s : Store) (fx : List Go.Chan) :
    Go.forRange l (s, fx) (fun (s, fx__) child ch =>
          if close then
            let fx__ := fx__ ++ [ch]
            let s := { s with ParentByChild := Go.Map.delete s.ParentByChild child }
            (s, fx__)
          else
            let s := { s with ParentByChild := Go.Map.delete s.ParentByChild child }
            (s, fx__))
      = ({ s with ParentByChild := eraseAll s.ParentByChild (l.map (·.1)) }, if close then fx ++ l.map (·.2) else fx) := by
  unfold Go.forRange
  induction l generalizing s fx with
  | nil => cases close <;> simp [eraseAll]
  | cons x l ih =>
    rw [List.foldl_cons, List.map_cons, List.map_cons, eraseAll]
    cases close <;> simp only [Bool.false_eq_true, if_false, if_true] at ih ⊢
    · exact ih _ _
    · rw [ih]; simp [Go.Map.delete]

def parentNF (w : Go.World) (g : Store) (p : String) (close : Bool) : Go.Error × Store × List Go.Chan :=
  match KV.lookup g.ChildrenByParent p with
  | none => (none, g, [])
  | some m =>
    (none, { ChildrenByParent := KV.erase g.ChildrenByParent p,
             ParentByChild := eraseAll g.ParentByChild ((w.ord m).map (·.1)) },
     if close then (w.ord m).map (·.2) else [])

theorem parent_nf (w : Go.World) (g : Store) (p : String) (close : Bool) (hp : p ≠ "") :
    Store.deleteAndOptionalCloseParent w g p close = parentNF w g p close := by
  unfold Store.deleteAndOptionalCloseParent parentNF
  cases hl : KV.lookup g.ChildrenByParent p with
  | none => simp [hp, Go.Map.has, KV.has, hl]
  | some m =>
    have hget : Go.Map.get g.ChildrenByParent p = m := by simp [Go.Map.get, hl]
    simp only [hp, decide_false, Bool.false_eq_true, if_false, Go.Map.has, KV.has, hl, Option.isSome_some, if_true, hget]
    rw [parent_loop]
    cases close <;> simp [Go.Map.delete]

/-- `Add` past its three argument checks. Go makes the inner map first when the parent is new; the second write to
    the same key leaves no trace of that (`KV.insert_insert_self`), so one equation serves both cases. -/
theorem add_nf (w : Go.World) (g : Store) (p c : String) (ch : Go.Chan) (hp : p ≠ "") (hc : c ≠ "") (hch : ch ≠ 0) :
    Store.Add w g p c ch =
      (none, { ChildrenByParent := KV.insert g.ChildrenByParent p (KV.insert ((KV.lookup g.ChildrenByParent p).getD []) c ch),
               ParentByChild := KV.insert g.ParentByChild c p }) := by
  cases hl : KV.lookup g.ChildrenByParent p with
  | some m =>
    have hget : Go.Map.get g.ChildrenByParent p = m := by simp [Go.Map.get, hl]
    simp [Store.Add, hp, hc, hch, Go.Map.has, KV.has, hl, hget, Go.Map.set]
  | none =>
    have hget : Go.Map.get (KV.insert g.ChildrenByParent p ([] : Go.Map Go.Chan)) p = [] := by simp [Go.Map.get]
    simp [Store.Add, hp, hc, hch, Go.Map.has, KV.has, hl, hget, Go.Map.set, Go.Map.empty, KV.insert_insert_self]

/-- the relation between the model's bindings `ents` / reverse map `par` and the Go store `g`:
* `look`, `par`        — the correspondence proper: `ChildrenByParent[p][c]` is the channel of the model's binding
                         `(p, c)`, `ParentByChild[c]` is the model's `parentOf c` (both: absent iff absent)
* `ndO`, `ndI`, `ndP`  — representation: the association lists that stand for the three Go maps bind no key twice
                         (`ndI`: every inner map stored in `ChildrenByParent`, cf. `Rel.ndI_mem`)
* `ne`                 — extra, not needed for the simulation but kept by it: no stored inner map is empty
                         (fixes fa1e809 / ff937d7: "do not keep an empty map for every parent ever seen")
* `ents`               — model side; implied by `ChanMap.Inv` -/
structure Rel (ents : List Ent) (par : KV String) (g : Store) : Prop where
  look : ∀ p c, (KV.lookup g.ChildrenByParent p).bind (fun m => KV.lookup m c) = (findEnt ents p c).map (·.ch)
  par : ∀ c, KV.lookup g.ParentByChild c = KV.lookup par c
  ndO : KV.NoDupKeys g.ChildrenByParent
  ndI : ∀ p m, KV.lookup g.ChildrenByParent p = some m → KV.NoDupKeys m
  ndP : KV.NoDupKeys g.ParentByChild
  ne : ∀ p m, KV.lookup g.ChildrenByParent p = some m → m ≠ []
  ents : EntsOk ents

/-- the simulation relation; the model's `closed`, `usedC`, `usedCh` have no counterpart in the Go store
    (`closed` is compared with the effect logs, see `Sim`) -/
def R (s : St) (g : Store) : Prop := Rel s.ents s.parentOf g

theorem Rel.ndI_mem {ents : List Ent} {par : KV String} {g : Store} (h : Rel ents par g) :
    ∀ pm ∈ g.ChildrenByParent, KV.NoDupKeys pm.2 ∧ pm.2 ≠ [] := by
  rintro ⟨p, m⟩ hmem
  have := Go.lookup_of_mem_nodup _ h.ndO p m hmem
  exact ⟨h.ndI p m this, h.ne p m this⟩

theorem R_init : R {} { ChildrenByParent := [], ParentByChild := [] } :=
  ⟨fun _ _ => rfl, fun _ => rfl, trivial, fun _ _ h => (by cases h), trivial, fun _ _ h => (by cases h), ⟨List.nodup_nil, by simp⟩⟩

theorem lookup_getD (o : Option (Go.Map Go.Chan)) (c : String) :
    KV.lookup (o.getD []) c = o.bind (fun m => KV.lookup m c) := by
  cases o <;> rfl

section
variable {ents ents' : List Ent} {par par' : KV String} {g g' : Store}

/-- `ChildrenByParent[p]` as Go reads it (the nil map when `p` is absent) against the model -/
theorem Rel.inner_look (h : Rel ents par g) (p c : String) :
    KV.lookup ((KV.lookup g.ChildrenByParent p).getD []) c = (findEnt ents p c).map (·.ch) := by
  rw [lookup_getD]; exact h.look p c

theorem Rel.inner_nodup (h : Rel ents par g) (p : String) : KV.NoDupKeys ((KV.lookup g.ChildrenByParent p).getD []) := by
  cases hm : KV.lookup g.ChildrenByParent p with
  | none => trivial
  | some m => exact h.ndI p m hm

theorem Rel.lookup_iff (h : Rel ents par g) (p c : String) (ch : Go.Chan) :
    KV.lookup (Go.Map.get g.ChildrenByParent p) c = some ch ↔ ({ p := p, c := c, ch := ch } : Ent) ∈ ents := by
  rw [show Go.Map.get g.ChildrenByParent p = (KV.lookup g.ChildrenByParent p).getD [] from rfl, h.inner_look,
    Option.map_eq_some_iff]
  constructor
  · rintro ⟨e, hfe, rfl⟩
    obtain ⟨he, rfl, rfl⟩ := findEnt_some _ _ _ _ hfe
    exact he
  · exact fun he => ⟨_, findEnt_of_mem ents h.ents _ he, rfl⟩

/-- Every method rewrites the entry of ONE parent `p` (its inner map becomes `x`, stored only if it is not empty) and
    leaves the other parents alone: the one preservation lemma behind `child_step`, `add_step` and `parent_step`. -/
theorem Rel.update (h : Rel ents par g) (p : String) (x : Go.Map Go.Chan) (hx : KV.NoDupKeys x)
    (hcbp : ∀ p', KV.lookup g'.ChildrenByParent p' =
      if p = p' then (if x = [] then none else some x) else KV.lookup g.ChildrenByParent p')
    (hents : ∀ p' c', (findEnt ents' p' c').map (·.ch) =
      if p = p' then KV.lookup x c' else (findEnt ents p' c').map (·.ch))
    (hpar : ∀ c, KV.lookup g'.ParentByChild c = KV.lookup par' c)
    (ndO : KV.NoDupKeys g'.ChildrenByParent) (ndP : KV.NoDupKeys g'.ParentByChild) (he : EntsOk ents') :
    Rel ents' par' g' := by
  have inner : ∀ p' m, KV.lookup g'.ChildrenByParent p' = some m → KV.NoDupKeys m ∧ m ≠ [] := by
    intro p' m hm
    rw [hcbp] at hm
    by_cases hpp : p = p'
    · by_cases hx0 : x = []
      · rw [if_pos hpp, if_pos hx0] at hm; cases hm
      · rw [if_pos hpp, if_neg hx0] at hm; injection hm with hm; exact hm ▸ ⟨hx, hx0⟩
    · rw [if_neg hpp] at hm; exact ⟨h.ndI p' m hm, h.ne p' m hm⟩
  refine ⟨?_, hpar, ndO, fun p' m hm => (inner p' m hm).1, ndP, fun p' m hm => (inner p' m hm).2, he⟩
  intro p' c'
  rw [hcbp, hents]
  by_cases hpp : p = p'
  · -- an inner map that is not stored because it is empty has no bindings to lose
    by_cases hx0 : x = []
    · rw [if_pos hpp, if_pos hpp, if_pos hx0, hx0]; rfl
    · rw [if_pos hpp, if_pos hpp, if_neg hx0]; rfl
  · rw [if_neg hpp, if_neg hpp]; exact h.look p' c'

end

theorem lookup_setDel (cbp : Go.Map (Go.Map Go.Chan)) (p p' : String) (x : Go.Map Go.Chan) :
    KV.lookup (setDel cbp p x) p' = if p = p' then (if x = [] then none else some x) else KV.lookup cbp p' := by
  simp only [setDel, Go.Map.len_eq_zero]
  by_cases hz : x = [] <;> by_cases hpp : p = p' <;> simp [hz, hpp, lookup_erase, lookup_insert]

theorem nodup_setDel (cbp : Go.Map (Go.Map Go.Chan)) (p : String) (x : Go.Map Go.Chan) (h : KV.NoDupKeys cbp) :
    KV.NoDupKeys (setDel cbp p x) := by
  unfold setDel
  by_cases hz : Go.Map.len x = 0
  · simp only [hz, if_true]; exact KV.nodup_erase _ _ (KV.nodup_insert _ _ _ h)
  · simp only [hz, if_false]; exact KV.nodup_insert _ _ _ h

/-- `out = (err, g', fx)` is what the translated function returned from `g`, `mod = (s', res)` what the model
    did from `s`. Closing the logged channels `fx` one by one from the model's closed set fails (a channel closed already
    or listed twice: Go panics) when the model says `.panic`, and otherwise gives exactly the model's new closed set. -/
structure Sim (s : St) (out : Go.Error × Store × List Go.Chan) (mod : St × Res) : Prop where
  err : ∀ msg, mod.2 = .err msg ↔ out.1 = some msg
  rel : mod.2 ≠ .panic → R mod.1 out.2.1
  closed : mod.2 ≠ .panic → closeAll s.closed out.2.2 = some mod.1.closed
  panic : mod.2 = .panic → closeAll s.closed out.2.2 = none

/-- as `Sim`, but the new closed set is reached up to the order of the list that represents it -/
structure SimPerm (s : St) (out : Go.Error × Store × List Go.Chan) (mod : St × Res) : Prop where
  err : ∀ msg, mod.2 = .err msg ↔ out.1 = some msg
  rel : mod.2 ≠ .panic → R mod.1 out.2.1
  closed : mod.2 ≠ .panic → ∃ cl, closeAll s.closed out.2.2 = some cl ∧ cl.Perm mod.1.closed
  panic : mod.2 = .panic → closeAll s.closed out.2.2 = none

theorem Sim.toPerm {s : St} {out : Go.Error × Store × List Go.Chan} {mod : St × Res} (h : Sim s out mod) : SimPerm s out mod :=
  ⟨h.err, h.rel, fun hp => ⟨_, h.closed hp, List.Perm.refl _⟩, h.panic⟩

theorem SimPerm.ok {s : St} {out : Go.Error × Store × List Go.Chan} {mod : St × Res} (h : SimPerm s out mod) :
    out.1 = none ↔ (mod.2 = .ok ∨ mod.2 = .panic) := by
  have : out.1 = none ↔ ∀ msg, mod.2 ≠ .err msg := by
    rw [Option.eq_none_iff_forall_ne_some]; exact forall_congr' fun msg => not_congr (h.err msg).symm
  rw [this]
  cases mod.2 <;> simp

theorem Sim.ok {s : St} {out : Go.Error × Store × List Go.Chan} {mod : St × Res} (h : Sim s out mod) :
    out.1 = none ↔ (mod.2 = .ok ∨ mod.2 = .panic) := h.toPerm.ok

theorem Sim.of_err {s : St} {g : Store} (msg : String) (h : R s g) : Sim s (some msg, g, []) (s, .err msg) :=
  ⟨by simp, fun _ => h, fun _ => rfl, by simp⟩

theorem Sim.of_ok {s s' : St} {g' : Store} {fx : List Go.Chan} (h : R s' g') (hc : closeAll s.closed fx = some s'.closed) :
    Sim s (none, g', fx) (s', .ok) :=
  ⟨by simp, fun _ => h, fun _ => hc, by simp⟩

theorem Sim.of_panic {s s' : St} {g' : Store} {fx : List Go.Chan} (hc : closeAll s.closed fx = none) :
    Sim s (none, g', fx) (s', .panic) :=
  ⟨by simp, fun x => absurd rfl x, fun x => absurd rfl x, fun _ => hc⟩

/-- `deleteAndOptionalCloseChild` (internal; both exported child deletions are this) -/
theorem child_step (w : Go.World) (s : St) (g : Store) (c : String) (close : Bool) (h : R s g) :
    Sim s (Store.deleteAndOptionalCloseChild w g c close) (step s (.delChild c close)) := by
  by_cases hc : c = ""
  · simpa [Store.deleteAndOptionalCloseChild, step, hc] using Sim.of_err "no child" h
  · rw [child_nf w g c close hc]
    simp only [step, hc, if_false, childNF, ← h.par c]
    cases hl : KV.lookup g.ParentByChild c with
    | none => exact .of_ok h rfl
    | some p =>
      simp only [h.inner_look p c]
      -- the model's binding `(p, c)` goes (if there is one), as `c` goes from the inner map of `p`
      have hx := KV.nodup_erase _ c (h.inner_nodup p)
      generalize hxe : KV.erase ((KV.lookup g.ChildrenByParent p).getD []) c = x at hx
      have hrel : Rel (dropKey s.ents p c) (KV.erase s.parentOf c)
          { ChildrenByParent := setDel g.ChildrenByParent p x, ParentByChild := KV.erase g.ParentByChild c } := by
        refine h.update p x hx (lookup_setDel _ p · x) ?_ ?_
          (nodup_setDel _ _ _ h.ndO) (KV.nodup_erase _ _ h.ndP) (entsOk_filter _ _ h.ents)
        · intro p' c'
          rw [findEnt_dropKey, ← hxe, lookup_erase, h.inner_look p c']
          by_cases hpp : p = p'
          · subst hpp; by_cases hcc : c = c' <;> simp [hcc]
          · simp [hpp]
        · intro c'
          simp only [lookup_erase, h.par c']
      cases hf : findEnt s.ents p c with
      | none =>
        -- no binding `(p, c)`: nothing is dropped
        have hdk : dropKey s.ents p c = s.ents :=
          List.filter_eq_self.2 fun e he => by simp [findEnt_none _ _ _ hf e he]
        rw [hdk] at hrel
        cases close <;> exact .of_ok hrel rfl
      | some e =>
        cases close with
        | false => exact .of_ok hrel rfl
        | true =>
          by_cases hcl : e.ch ∈ s.closed
          · simp only [Option.map_some, Option.toList_some, if_true, hcl]
            exact .of_panic (by simp [closeAll, hcl])
          · simp only [Option.map_some, Option.toList_some, if_true, hcl, if_false]
            exact .of_ok hrel (by simp [closeAll, hcl])

/-- Side condition `ch ≠ 0`: the Go code rejects a nil channel with the error "no channel"; the model has
    no such branch (see `add_nil_channel`). `Add` closes nothing, hence the empty effect log. -/
theorem add_step (w : Go.World) (s : St) (g : Store) (p c : String) (ch : Go.Chan) (h : R s g) (hch : ch ≠ 0) :
    Sim s ((Store.Add w g p c ch).1, (Store.Add w g p c ch).2, []) (step s (.add p c ch)) := by
  by_cases hp : p = ""
  · simpa [Store.Add, step, hp] using Sim.of_err "no parent" h
  by_cases hc : c = ""
  · simpa [Store.Add, step, hp, hc] using Sim.of_err "no child" h
  rw [add_nf w g p c ch hp hc hch, step_add_ok s p c ch hp hc]
  -- the model's binding `(p, c)` is replaced, as `c` is rebound in the inner map of `p`
  have hrel : Rel ({ p := p, c := c, ch := ch } :: dropKey s.ents p c) (KV.insert s.parentOf c p)
      { ChildrenByParent := KV.insert g.ChildrenByParent p (KV.insert ((KV.lookup g.ChildrenByParent p).getD []) c ch),
        ParentByChild := KV.insert g.ParentByChild c p } := by
    refine h.update p (KV.insert ((KV.lookup g.ChildrenByParent p).getD []) c ch) (KV.nodup_insert _ _ _ (h.inner_nodup p))
      (fun p' => by rw [if_neg (show KV.insert _ c ch ≠ [] from List.cons_ne_nil _ _)]; exact lookup_insert _ p p' _) ?_ ?_
      (KV.nodup_insert _ _ _ h.ndO) (KV.nodup_insert _ _ _ h.ndP) (entsOk_add _ _ _ _ h.ents)
    · intro p' c'
      rw [findEnt, findEnt_dropKey, lookup_insert, h.inner_look p c']
      by_cases hpp : p = p'
      · subst hpp; by_cases hcc : c = c' <;> simp [hcc]
      · simp [hpp]
    · intro c'
      simp only [lookup_insert, h.par c']
  exact .of_ok hrel rfl

/-- the one place where model and code answer differently: a nil channel -/
theorem add_nil_channel (w : Go.World) :
    (Store.Add w { ChildrenByParent := [], ParentByChild := [] } "p" "c" 0).1 = some "no channel" ∧
    (step {} (.add "p" "c" 0)).2 = .ok := by simp [Store.Add, step]

theorem nodup_map_on {β γ : Type} (f : β → γ) (l : List β) (hn : l.Nodup)
    (hinj : ∀ x ∈ l, ∀ y ∈ l, f x = f y → x = y) : (l.map f).Nodup :=
  ChanMap.nodup_map_on f l hn hinj

theorem inner_perm (ents : List Ent) (par : KV String) (g : Store) (h : Rel ents par g) (p : String)
    (m : Go.Map Go.Chan) (hl : KV.lookup g.ChildrenByParent p = some m) :
    m.Perm ((ofParent ents p).map (fun e => (e.c, e.ch))) := by
  have hlook : ∀ c, KV.lookup m c = (findEnt ents p c).map (·.ch) := by
    intro c; have := h.look p c; rw [hl] at this; exact this
  refine (List.perm_ext_iff_of_nodup (KV.nodup_of_noDupKeys m (h.ndI p m hl)) ?_).2 ?_
  · apply nodup_map_on _ _ (List.Nodup.sublist List.filter_sublist h.ents.nodup)
    intro x hx y hy hxy
    obtain ⟨hx1, hx2⟩ := (mem_ofParent _ _ _).1 hx
    obtain ⟨hy1, hy2⟩ := (mem_ofParent _ _ _).1 hy
    injection hxy with hc _
    exact h.ents.uniq x hx1 y hy1 (hx2.trans hy2.symm) hc
  · rintro ⟨c, ch⟩
    rw [KV.mem_iff_lookup m c ch (h.ndI p m hl), hlook c, Option.map_eq_some_iff, List.mem_map]
    refine exists_congr fun e => ?_
    have hfe : findEnt ents p c = some e ↔ e ∈ ents ∧ e.p = p ∧ e.c = c :=
      ⟨findEnt_some _ _ _ _, fun ⟨h1, h2, h3⟩ => h2 ▸ h3 ▸ findEnt_of_mem ents h.ents e h1⟩
    rw [hfe, mem_ofParent, Prod.mk.injEq]
    simp only [and_assoc]

theorem no_bindings (es : List Ent) (p : String) (h : ∀ c, findEnt es p c = none) :
    ofParent es p = [] ∧ dropParent es p = es := by
  have hne : ∀ e ∈ es, ¬ e.p = p := fun e he hp => findEnt_none es p e.c (h e.c) e he ⟨hp, rfl⟩
  constructor
  · unfold ofParent
    apply List.filter_eq_nil_iff.2
    intro e he; simp [hne e he]
  · unfold dropParent
    apply List.filter_eq_self.2
    intro e he; simp [hne e he]

/-- what the simulation proofs need to know of the translated function, in terms of the model's `ofParent ents p`
    (`out = (err, g', fx)` as in `Sim`) -/
theorem parent_spec (w : Go.World) (hw : w.OrdOk) (ents : List Ent) (par : KV String) (g : Store) (h : Rel ents par g)
    (p : String) (hp : p ≠ "") (close : Bool) :
    let out := Store.deleteAndOptionalCloseParent w g p close
    out.1 = none ∧
    out.2.2.Perm (if close then (ofParent ents p).map (·.ch) else []) ∧
    (∀ p', KV.lookup out.2.1.ChildrenByParent p' = if p = p' then none else KV.lookup g.ChildrenByParent p') ∧
    (∀ n, KV.lookup out.2.1.ParentByChild n = if n ∈ (ofParent ents p).map (·.c) then none else KV.lookup g.ParentByChild n) ∧
    KV.NoDupKeys out.2.1.ChildrenByParent ∧
    KV.NoDupKeys out.2.1.ParentByChild := by
  rw [parent_nf w g p close hp]
  unfold parentNF
  cases hl : KV.lookup g.ChildrenByParent p with
  | none =>
    -- a parent without an entry in the store has no bindings in the model
    rw [(no_bindings ents p fun c => Option.map_eq_none_iff.1 (by rw [← h.look p c, hl]; rfl)).1]
    refine ⟨rfl, by cases close <;> exact .refl _, fun p' => ?_, fun _ => rfl, h.ndO, h.ndP⟩
    by_cases hpp : p = p'
    · subst hpp; rw [if_pos rfl]; exact hl
    · rw [if_neg hpp]
  | some m =>
    -- the inner map, in the order `w` ranges over it, holds the model's bindings of `p`
    have hP := (hw _ m).trans (inner_perm ents par g h p m hl)
    have hvals : ((w.ord m).map (·.2)).Perm ((ofParent ents p).map (·.ch)) := by
      simpa [List.map_map, Function.comp_def] using hP.map (·.2)
    have hkeys : ((w.ord m).map (·.1)).Perm ((ofParent ents p).map (·.c)) := by
      simpa [List.map_map, Function.comp_def] using hP.map (·.1)
    refine ⟨rfl, ?_, lookup_erase _ p, fun n => ?_, KV.nodup_erase _ _ h.ndO, nodup_eraseAll _ _ h.ndP⟩
    · cases close
      · exact .refl _
      · exact hvals
    · simp only [lookup_eraseAll, hkeys.mem_iff]

/-- `deleteAndOptionalCloseParent` (internal; both exported parent deletions are this).
    The children are ranged over in the order `w.ord` picks, the model closes in the order of its list: the
    closed SETS agree, the lists representing them need not (`closeParent_order_counterexample`); without closing
    the step is exact. -/
theorem parent_step (w : Go.World) (hw : w.OrdOk) (s : St) (g : Store) (p : String) (close : Bool) (h : R s g) :
    SimPerm s (Store.deleteAndOptionalCloseParent w g p close) (step s (.delParent p close)) ∧
    (close = false → Sim s (Store.deleteAndOptionalCloseParent w g p close) (step s (.delParent p close))) := by
  by_cases hp : p = ""
  · have e := Sim.of_err "no parent" h
    simpa [Store.deleteAndOptionalCloseParent, step, hp] using And.intro e.toPerm fun _ : close = false => e
  · obtain ⟨herr, hfx, hcbp, hpbc, ndO, ndP⟩ := parent_spec w hw s.ents s.parentOf g h p hp close
    generalize Store.deleteAndOptionalCloseParent w g p close = out at herr hfx hcbp hpbc ndO ndP ⊢
    obtain ⟨err, g', fx⟩ := out
    simp only at herr hfx hcbp hpbc ndO ndP
    subst herr
    have hrel : Rel (dropParent s.ents p) (eraseAll s.parentOf ((ofParent s.ents p).map (·.c))) g' := by
      refine h.update p [] trivial (by simpa using hcbp) ?_ ?_ ndO ndP (entsOk_filter _ _ h.ents)
      · intro p' c'
        rw [findEnt_dropParent]
        split <;> rfl
      · intro c'
        rw [hpbc, lookup_eraseAll, h.par c']
    simp only [step, hp, if_false]
    cases close with
    | false =>
      rw [List.perm_nil.1 hfx]
      exact ⟨Sim.toPerm (.of_ok hrel rfl), fun _ => .of_ok hrel rfl⟩
    | true =>
      refine ⟨?_, nofun⟩
      obtain ⟨hnone, hsome⟩ := closeAll_perm (List.Perm.refl s.closed) hfx
      simp only [if_true]
      cases hca : closeAll s.closed ((ofParent s.ents p).map (·.ch)) with
      | none => exact Sim.toPerm (.of_panic (hnone.2 hca))
      | some cl => exact ⟨by simp, fun _ => hrel, fun _ => hsome cl hca, by simp⟩

theorem parent_step_partial (w : Go.World) (hw : w.OrdOk) (s : St) (g : Store) (p : String) (close : Bool) (h : R s g) :
    SimPerm s (Store.deleteAndOptionalCloseParent w g p close) (step s (.delParent p close)) :=
  (parent_step w hw s g p close h).1

/-! ### the exported methods (thin wrappers: take the lock, call the internal function) -/

theorem DeleteChild_eq (w : Go.World) (g : Store) (c : String) :
    Store.DeleteChild w g c = Store.deleteAndOptionalCloseChild w g c false := by
  simp [Store.DeleteChild]

theorem DeleteAndCloseChild_eq (w : Go.World) (g : Store) (c : String) :
    Store.DeleteAndCloseChild w g c = Store.deleteAndOptionalCloseChild w g c true := by
  simp [Store.DeleteAndCloseChild]

theorem DeleteParent_eq (w : Go.World) (g : Store) (p : String) :
    Store.DeleteParent w g p = Store.deleteAndOptionalCloseParent w g p false := by
  simp [Store.DeleteParent]

theorem DeleteAndCloseParent_eq (w : Go.World) (g : Store) (p : String) :
    Store.DeleteAndCloseParent w g p = Store.deleteAndOptionalCloseParent w g p true := by
  simp [Store.DeleteAndCloseParent]

/-- `DeleteChild` logs no close, and the model's closed set stays as it is -/
theorem DeleteChild_closes_nothing (w : Go.World) (s : St) (g : Store) (c : String) :
    (Store.DeleteChild w g c).2.2 = [] ∧ (step s (.delChild c false)).1.closed = s.closed := by
  rw [DeleteChild_eq]
  constructor
  · by_cases hc : c = ""
    · simp [Store.deleteAndOptionalCloseChild, hc]
    · rw [child_nf w g c false hc]; unfold childNF
      split <;> rfl
  · -- with `close = false` no branch of `step` writes `closed`
    simp only [step, Bool.false_eq_true, if_false]
    by_cases hc : c = ""
    · rw [if_pos hc]
    · rw [if_neg hc]
      cases KV.lookup s.parentOf c with
      | none => rfl
      | some p =>
        dsimp only
        cases findEnt s.ents p c <;> rfl

theorem DeleteChild_step (w : Go.World) (s : St) (g : Store) (c : String) (h : R s g) :
    Sim s (Store.DeleteChild w g c) (step s (.delChild c false)) := by
  rw [DeleteChild_eq]; exact child_step w s g c false h

theorem DeleteAndCloseChild_step (w : Go.World) (s : St) (g : Store) (c : String) (h : R s g) :
    Sim s (Store.DeleteAndCloseChild w g c) (step s (.delChild c true)) := by
  rw [DeleteAndCloseChild_eq]; exact child_step w s g c true h

theorem DeleteParent_step (w : Go.World) (hw : w.OrdOk) (s : St) (g : Store) (p : String) (h : R s g) :
    Sim s (Store.DeleteParent w g p) (step s (.delParent p false)) := by
  rw [DeleteParent_eq]; exact (parent_step w hw s g p false h).2 rfl

theorem DeleteAndCloseParent_step_partial (w : Go.World) (hw : w.OrdOk) (s : St) (g : Store) (p : String) (h : R s g) :
    SimPerm s (Store.DeleteAndCloseParent w g p) (step s (.delParent p true)) := by
  rw [DeleteAndCloseParent_eq]; exact parent_step_partial w hw s g p true h

/-- the exported method that serves an operation of the model -/
def stepGen (w : Go.World) (g : Store) : Op → Go.Error × Store × List Go.Chan
  | .add p c ch => ((Store.Add w g p c ch).1, (Store.Add w g p c ch).2, [])
  | .delChild c false => Store.DeleteChild w g c
  | .delChild c true => Store.DeleteAndCloseChild w g c
  | .delParent p false => Store.DeleteParent w g p
  | .delParent p true => Store.DeleteAndCloseParent w g p

/-- the hub never passes a nil channel -/
def NoNil : Op → Prop
  | .add _ _ ch => ch ≠ 0
  | _ => True

theorem stepGen_sim (w : Go.World) (hw : w.OrdOk) (s : St) (g : Store) (op : Op) (h : R s g) (hn : NoNil op) :
    SimPerm s (stepGen w g op) (step s op) := by
  cases op with
  | add p c ch => exact (add_step w s g p c ch h hn).toPerm
  | delChild c close =>
    cases close with
    | false => exact (DeleteChild_step w s g c h).toPerm
    | true => exact (DeleteAndCloseChild_step w s g c h).toPerm
  | delParent p close =>
    cases close with
    | false => exact (DeleteParent_step w hw s g p h).toPerm
    | true => exact DeleteAndCloseParent_step_partial w hw s g p h

def ansOf : Go.Error → Res
  | none => .ok
  | some msg => .err msg

theorem SimPerm.ans {s : St} {out : Go.Error × Store × List Go.Chan} {mod : St × Res} (h : SimPerm s out mod)
    (hr : mod.2 ≠ .panic) : ansOf out.1 = mod.2 := by
  cases hm : mod.2 with
  | panic => exact absurd hm hr
  | ok => rw [h.ok.2 (Or.inl hm)]; rfl
  | err msg => rw [(h.err msg).1 hm]; rfl

/-- `cl` is the set of channels closed so far (the Go runtime's knowledge), the `i`-th call ranges over maps in the
    order `(wf i).ord`; closing a closed channel panics and nothing runs after that (as in `ChanMap.run`) -/
def runGen (wf : Nat → Go.World) : Store → List Go.Chan → List Op → Store × List Go.Chan × List Res
  | g, cl, [] => (g, cl, [])
  | g, cl, op :: ops =>
    match closeAll cl (stepGen (wf 0) g op).2.2 with
    | none => (g, cl, [.panic])
    | some cl' =>
      let r := runGen (fun i => wf (i + 1)) (stepGen (wf 0) g op).2.1 cl' ops
      (r.1, r.2.1, ansOf (stepGen (wf 0) g op).1 :: r.2.2)

/-- **every history** without a nil channel (disciplined or not, panicking or not), every iteration order at every call: the translated
    code gives the model's answers (a panic where the model says panic), and unless it panicked ends in a related
    state with the same set of closed channels -/
theorem run_sim (ops : List Op) : ∀ (wf : Nat → Go.World) (s : St) (g : Store) (cl : List Go.Chan),
    (∀ i, (wf i).OrdOk) → (∀ op ∈ ops, NoNil op) → R s g → cl.Perm s.closed →
    (runGen wf g cl ops).2.2 = (run s ops).2 ∧
    (Res.panic ∉ (run s ops).2 →
      R (run s ops).1 (runGen wf g cl ops).1 ∧ (runGen wf g cl ops).2.1.Perm (run s ops).1.closed) := by
  induction ops with
  | nil => intro wf s g cl _ _ h hc; exact ⟨rfl, fun _ => ⟨h, hc⟩⟩
  | cons op ops ih =>
    intro wf s g cl hwf hn h hc
    have hs := stepGen_sim (wf 0) (hwf 0) s g op h (hn op List.mem_cons_self)
    have hcp := closeAll_perm hc (List.Perm.refl (stepGen (wf 0) g op).2.2)
    by_cases hr : (step s op).2 = .panic
    · rw [run_cons_panic s op ops hr]
      simp only [runGen, hcp.1.2 (hs.panic hr)]
      exact ⟨trivial, fun hnp => absurd List.mem_cons_self hnp⟩
    · obtain ⟨r1, hr1, hp1⟩ := hs.closed hr
      obtain ⟨r0, hr0, hp0⟩ := hcp.2 r1 hr1
      have hih := ih (fun i => wf (i + 1)) (step s op).1 (stepGen (wf 0) g op).2.1 r0 (fun i => hwf (i + 1))
        (fun o ho => hn o (List.mem_cons_of_mem _ ho)) (hs.rel hr) (hp0.trans hp1)
      rw [run_cons s op ops hr]
      simp only [runGen, hr0, hs.ans hr, hih.1]
      exact ⟨trivial, fun hnp => hih.2 (fun x => hnp (List.mem_cons_of_mem _ x))⟩

/-- **the hub's histories** (`Disc`: fresh connection name and fresh channel per `add`; no nil channel): the
    translated code, started from the empty store, never closes a closed channel, answers as the model answers,
    ends in a state related to the model's, having closed exactly the channels the model closed -/
theorem history_tie (wf : Nat → Go.World) (hwf : ∀ i, (wf i).OrdOk) (ops : List Op)
    (hn : ∀ op ∈ ops, NoNil op) (hd : Disc {} ops) :
    (runGen wf { ChildrenByParent := [], ParentByChild := [] } [] ops).2.2 = (run {} ops).2 ∧
    Res.panic ∉ (runGen wf { ChildrenByParent := [], ParentByChild := [] } [] ops).2.2 ∧
    R (run {} ops).1 (runGen wf { ChildrenByParent := [], ParentByChild := [] } [] ops).1 ∧
    (runGen wf { ChildrenByParent := [], ParentByChild := [] } [] ops).2.1.Perm (run {} ops).1.closed := by
  have hnp := chanmap_never_panics ops hd
  obtain ⟨h1, h2⟩ := run_sim ops wf {} { ChildrenByParent := [], ParentByChild := [] } [] hwf hn R_init (List.Perm.refl _)
  exact ⟨h1, h1 ▸ hnp, (h2 hnp).1, (h2 hnp).2⟩

theorem history_closed_set (wf : Nat → Go.World) (hwf : ∀ i, (wf i).OrdOk) (ops : List Op)
    (hn : ∀ op ∈ ops, NoNil op) (hd : Disc {} ops) (ch : Go.Chan) :
    ch ∈ (runGen wf { ChildrenByParent := [], ParentByChild := [] } [] ops).2.1 ↔ ch ∈ (run {} ops).1.closed := by
  obtain ⟨_, _, _, hclosed⟩ := history_tie wf hwf ops hn hd
  exact hclosed.mem_iff

/-! ### why `DeleteAndCloseParent` is `_partial`

`closeAll s.closed fx = some s'.closed` (equality of the LISTS) is false for it: after `Add p a 1; Add p b 2`
(a disciplined history) let Go range over the inner map in the order a, b — the model closes b's channel first. -/

def cexOps : List Op := [.add "p" "a" 1, .add "p" "b" 2]
def cexWorld : Go.World := { now := 0, fresh := "", ord := fun l => l.reverse }

theorem cexWorld_ok : cexWorld.OrdOk := fun _ m => List.reverse_perm m

theorem closeParent_order_counterexample :
    ∃ (s : St) (g : Store) (w : Go.World), R s g ∧ Inv s ∧ w.OrdOk ∧
      closeAll s.closed (Store.DeleteAndCloseParent w g "p").2.2 = some [2, 1] ∧
      (step s (.delParent "p" true)).2 = .ok ∧ (step s (.delParent "p" true)).1.closed = [1, 2] := by
  have hd : Disc {} cexOps := ⟨⟨by decide, by decide⟩, ⟨by decide, by decide⟩, trivial⟩
  have hn : ∀ op ∈ cexOps, NoNil op := by simp [cexOps, NoNil]
  obtain ⟨_, _, hR, _⟩ := history_tie (fun _ => cexWorld) (fun _ => cexWorld_ok) cexOps hn hd
  exact ⟨_, _, cexWorld, hR, (run_inv {} cexOps inv_init hd).1, cexWorld_ok, by decide, by decide, by decide⟩

/-- exactly the constructor is outside the translation -/
theorem coverage : Gen.chanmap.untranslated.map (·.1) = ["New"] ∧
    Gen.chanmap.translated = ["Store.Add", "Store.DeleteAndCloseChild", "Store.DeleteAndCloseParent", "Store.DeleteChild",
      "Store.DeleteParent", "Store.deleteAndOptionalCloseChild", "Store.deleteAndOptionalCloseParent"] :=
  ⟨rfl, rfl⟩

end TieChanMap
