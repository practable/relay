import Relay.Extracted.GenDeny
import Relay.Model.Deny
import Relay.Props.C10

/-!
# Tie: the Lean translation of `/repo/internal/deny/deny.go` (regenerated on every run) IS the hand-written
register model, for every argument and every map iteration order, in every state (`Prune`: with duplicate-free lists).

The property theorems of C10 / C07 / C09 are stated about `Deny.step`; the theorems below carry them over
to the code that the translator read from the source today. A change to `deny.go` that alters what a method
does changes `Gen.deny.*` and these theorems stop checking.
-/

namespace TieDeny
open Deny

/-- the register as the Go struct (the mutex and the shutdown channel are not data) -/
def toGen (r : Reg) : Gen.deny.Store := { AllowList := r.allow, DenyList := r.deny, Now := fun _ => r.now }

theorem allow_tie (w : Go.World) (r : Reg) (id : String) (e : Int) :
    Gen.deny.Store.Allow w (toGen r) id e = toGen (step r (.allow id e)) := rfl

theorem deny_tie (w : Go.World) (r : Reg) (id : String) (e : Int) :
    Gen.deny.Store.Deny w (toGen r) id e = toGen (step r (.deny id e)) := rfl

theorem isDenied_tie (w : Go.World) (r : Reg) (id : String) :
    Gen.deny.Store.IsDenied w (toGen r) id = isDenied r id := rfl

theorem setNow_tie (w : Go.World) (r : Reg) (t : Int) :
    Gen.deny.Store.SetNowFunc w (toGen r) (fun _ => t) = toGen (step r (.setNow t)) := rfl

theorem forSlice_field_allow (s : Gen.deny.Store) (ks : List String) :
    Go.forSlice ks s (fun s _ ID => { s with AllowList := Go.Map.delete s.AllowList ID })
      = { s with AllowList := Go.forSlice ks s.AllowList (fun m _ ID => Go.Map.delete m ID) } :=
  Go.forSlice_field (fun s m => { s with AllowList := m }) Go.Map.delete _ (fun _ _ _ => rfl) ks s s.AllowList

theorem forSlice_field_deny (s : Gen.deny.Store) (ks : List String) :
    Go.forSlice ks s (fun s _ ID => { s with DenyList := Go.Map.delete s.DenyList ID })
      = { s with DenyList := Go.forSlice ks s.DenyList (fun m _ ID => Go.Map.delete m ID) } :=
  Go.forSlice_field (fun s m => { s with DenyList := m }) Go.Map.delete _ (fun _ _ _ => rfl) ks s s.DenyList

theorem prune_tie (w : Go.World) (hw : w.OrdOk) (r : Reg) (ha : KV.NoDupKeys r.allow) (hd : KV.NoDupKeys r.deny) :
    Gen.deny.Store.Prune w (toGen r) = toGen (step r .prune) := by
  -- written so that it does not depend on the order in which the source sweeps the two lists
  simp only [Gen.deny.Store.Prune, Gen.deny.Store.prune, toGen, step, forSlice_field_allow, forSlice_field_deny,
    Gen.deny.Store.mk.injEq]
  exact ⟨Go.sweep_collect_delete w hw r.allow ha _, Go.sweep_collect_delete w hw r.deny hd _, trivial⟩

theorem getDenyList_tie (w : Go.World) (hw : w.OrdOk) (r : Reg) :
    (Gen.deny.Store.GetDenyList w (toGen r)).Perm (KV.keys r.deny) := by
  simp only [Gen.deny.Store.GetDenyList, toGen]
  rw [Go.forRange_keys]
  exact (hw Int r.deny).map _

theorem getAllowList_tie (w : Go.World) (hw : w.OrdOk) (r : Reg) :
    (Gen.deny.Store.GetAllowList w (toGen r)).Perm (KV.keys r.allow) := by
  simp only [Gen.deny.Store.GetAllowList, toGen]
  rw [Go.forRange_keys]
  exact (hw Int r.allow).map _

/-- exactly these functions of the package are outside the translation (constructor, wall clock) -/
theorem coverage : Gen.deny.untranslated.map (·.1) = ["New", "SystemNow"] ∧
    Gen.deny.translated = ["Store.Allow", "Store.Deny", "Store.GetAllowList", "Store.GetDenyList", "Store.IsDenied", "Store.Prune", "Store.SetNowFunc", "Store.prune"] :=
  ⟨rfl, rfl⟩

end TieDeny


namespace TieDenyE2E
open Deny TieDeny

/-! ## End to end: the property theorems, stated of histories of the TRANSLATED code

Each call may see a different map iteration order. The request-level operations `denyReq` / `allowReq` apply the
handlers' parameter guards (hand-modelled here, C09/C11) and then call the translated method. -/

/-- store-level operations: the ones that are methods of `deny.Store` -/
def storeOp : Op → Bool
  | .denyReq _ _ | .allowReq _ _ => false
  | _ => true

def genStep (w : Go.World) (g : Gen.deny.Store) : Op → Gen.deny.Store
  | .allow id e => Gen.deny.Store.Allow w g id e
  | .deny id e => Gen.deny.Store.Deny w g id e
  | .prune => Gen.deny.Store.Prune w g
  | .setNow t => Gen.deny.Store.SetNowFunc w g (fun _ => t)
  | .denyReq id e => if id = "" then g else if e < g.Now () then g else Gen.deny.Store.Deny w g id e
  | .allowReq id e => if id = "" then g else if e < g.Now () then g else Gen.deny.Store.Allow w g id e

/-- `wf i` is the world (iteration order) of the i-th call -/
def genRun (wf : Nat → Go.World) : Nat → Gen.deny.Store → List Op → Gen.deny.Store
  | _, g, [] => g
  | i, g, op :: ops => genRun wf (i + 1) (genStep (wf i) g op) ops

theorem genStep_tie (w : Go.World) (hw : w.OrdOk) (r : Reg) (h : Inv r) (op : Op) :
    genStep w (toGen r) op = toGen (step r op) := by
  cases op with
  | allow id e => exact allow_tie w r id e
  | deny id e => exact deny_tie w r id e
  | prune => exact prune_tie w hw r h.nda h.ndd
  | setNow t => exact setNow_tie w r t
  | denyReq id e | allowReq id e =>
    simp only [genStep, step, apply_ite toGen]
    rfl

theorem genRun_tie (wf : Nat → Go.World) (hwf : ∀ i, (wf i).OrdOk) (ops : List Op) (i : Nat) (r : Reg) (h : Inv r) :
    genRun wf i (toGen r) ops = toGen (run ops r) := by
  induction ops generalizing i r with
  | nil => rfl
  | cons op ops ih =>
    simp only [genRun, run, List.foldl_cons]
    rw [genStep_tie (wf i) (hwf i) r h op]
    exact ih (i + 1) (step r op) (step_inv r op h)

/-- `Deny.status`, read off the translated store -/
def genStatus (g : Gen.deny.Store) (id : String) : Status :=
  match KV.lookup g.DenyList id with
  | some e => .denied e
  | none => match KV.lookup g.AllowList id with
    | some e => .allowed e
    | none => .absent

/-- **C10 for the code as translated today**: after ANY history of register operations, with ANY map iteration orders,
    the translated store's verdict on every id is the latest decision not yet pruned (the one-cell specification) -/
theorem translated_register_refines_cell (wf : Nat → Go.World) (hwf : ∀ i, (wf i).OrdOk) (ops : List Op) (id : String) :
    genStatus (genRun wf 0 (toGen {}) ops) id = (spec id ops).1 := by
  rw [genRun_tie wf hwf ops 0 {} inv_init]
  exact reg_refines_cell ops id

/-- … in particular the latest deny wins, whatever came before -/
theorem translated_latest_deny_wins (wf : Nat → Go.World) (hwf : ∀ i, (wf i).OrdOk) (ops : List Op) (id : String) (e : Int) :
    Gen.deny.Store.IsDenied (wf (ops.length + 1)) (genRun wf 0 (toGen {}) (ops ++ [.deny id e])) id = true := by
  rw [genRun_tie wf hwf _ 0 {} inv_init, isDenied_tie]
  obtain ⟨hdeny, _⟩ := lists_exact (ops ++ [.deny id e]) id
  exact (KV.mem_keys_iff_has _ _).1 (hdeny.mpr ⟨e, reg_latest_wins_deny ops id e⟩)

/-- … and no id is ever on both lists of the translated store -/
theorem translated_lists_disjoint (wf : Nat → Go.World) (hwf : ∀ i, (wf i).OrdOk) (ops : List Op) (id : String) :
    KV.lookup (genRun wf 0 (toGen {}) ops).AllowList id = none ∨ KV.lookup (genRun wf 0 (toGen {}) ops).DenyList id = none := by
  rw [genRun_tie wf hwf ops 0 {} inv_init]
  exact (run_inv ops {} inv_init).disj id

end TieDenyE2E
