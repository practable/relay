import Relay.Lemmas.TopicMap
import Relay.Extracted.GenCrossbar
import Relay.Tie.ChanMap
import Relay.Props.HubInv

/-!
# Tie: the hub's event loop as TRANSLATED from `/repo/internal/crossbar/crossbar.go`

`Gen.crossbar.Hub.run_register`, `Hub.run_unregister`, `Hub.run_broadcast` (the three cases of the `select` in
`Hub.run`) and `Hub.remove` are regenerated from the Go source on every run. The theorems below are about THAT
code, for every world (`w.ordP`: any iteration order of the client map; `w.ready`: any choice of which bounded
send queues have room).
-/

namespace TieHub
open Gen.crossbar

/-- `c` is filed in the hub under topic `t` -/
def filed (h : Hub) (t : String) (c : Client) : Prop := Go.PMap.has (Go.Map.get h.clients t) c = true

instance (h : Hub) (t : String) (c : Client) : Decidable (filed h t c) := by unfold filed; infer_instance

/-- the invariant `Hub.run` maintains (`reachable_wf`) -/
structure WF (h : Hub) : Prop where
  inner : ∀ t, PNoDup (Go.Map.get h.clients t)
  own : ∀ t c, filed h t c → c.topic = t

/-- the test `client.name != message.sender.name` of the broadcast case: by name, not by pointer -/
def target (m : message) (c : Client) : Bool := !decide (c.name = m.sender.name)

theorem wf_iff (h : Hub) : WF h ↔ TopicMap.Wf Client.topic (Go.Map.get h.clients) :=
  ⟨fun x => ⟨x.inner, x.own⟩, fun x => ⟨x.inner, x.own⟩⟩

theorem register_nf (w : Go.World) (h : Hub) (c : Client) :
    Hub.run_register w h c =
      { h with clients := TopicMap.register h.clients c.topic c,
               dcs := (Gen.chanmap.Store.Add w h.dcs c.bookingID c.name c.denied).2 } := by
  unfold Hub.run_register TopicMap.register
  cases Go.Map.has h.clients c.topic <;> simp

theorem register_get (w : Go.World) (h : Hub) (c : Client) :
    Go.Map.get (Hub.run_register w h c).clients = TopicMap.file (Go.Map.get h.clients) c.topic c := by
  rw [register_nf]; exact TopicMap.get_register _ _ _

theorem register_filed (w : Go.World) (h : Hub) (c : Client) (t : String) (c' : Client) :
    filed (Hub.run_register w h c) t c' ↔ filed h t c' ∨ (t = c.topic ∧ c' = c) := by
  unfold filed; rw [register_get]; exact TopicMap.filedIn_file _ _ _ _ _

theorem register_wf (w : Go.World) (h : Hub) (c : Client) (hwf : WF h) : WF (Hub.run_register w h c) :=
  (wf_iff _).2 (register_get w h c ▸ ((wf_iff h).1 hwf).file c)

theorem register_dcs (w : Go.World) (h : Hub) (c : Client) :
    (Hub.run_register w h c).dcs = (Gen.chanmap.Store.Add w h.dcs c.bookingID c.name c.denied).2 := by
  rw [register_nf]

theorem register_rest (w : Go.World) (h : Hub) (c : Client) :
    (Hub.run_register w h c).broadcast = h.broadcast ∧ (Hub.run_register w h c).register = h.register ∧
    (Hub.run_register w h c).unregister = h.unregister := by
  rw [register_nf]; exact ⟨rfl, rfl, rfl⟩

theorem remove_nf (w : Go.World) (h : Hub) (c : Client) :
    Hub.remove w h c =
      ({ h with clients := if Go.PMap.has (Go.Map.get h.clients c.topic) c then TopicMap.unregister h.clients c.topic c
                           else h.clients,
                dcs := (Gen.chanmap.Store.DeleteChild w h.dcs c.name).2.1 },
       (if Go.PMap.has (Go.Map.get h.clients c.topic) c then [c.send] else [])
         ++ (Gen.chanmap.Store.DeleteChild w h.dcs c.name).2.2) := by
  unfold Hub.remove TopicMap.unregister
  cases Go.PMap.has (Go.Map.get h.clients c.topic) c <;> simp

theorem remove_get (w : Go.World) (h : Hub) (c : Client) :
    Go.Map.get (Hub.remove w h c).1.clients = TopicMap.unfile (Go.Map.get h.clients) c.topic c := by
  rw [remove_nf]
  by_cases hf : Go.PMap.has (Go.Map.get h.clients c.topic) c = true
  · simp only [hf, if_true]; exact TopicMap.get_unregister _ _ _
  · simp only [hf]; exact (TopicMap.unfile_of_not_filed _ _ _ hf).symm

theorem remove_filed (w : Go.World) (h : Hub) (c : Client) (t : String) (c' : Client) :
    filed (Hub.remove w h c).1 t c' ↔ filed h t c' ∧ ¬ (t = c.topic ∧ c' = c) := by
  unfold filed; rw [remove_get]; exact TopicMap.filedIn_unfile _ _ _ _ _

theorem remove_wf (w : Go.World) (h : Hub) (c : Client) (hwf : WF h) : WF (Hub.remove w h c).1 :=
  (wf_iff _).2 (remove_get w h c ▸ ((wf_iff h).1 hwf).unfile c.topic c)

theorem remove_dcs (w : Go.World) (h : Hub) (c : Client) :
    (Hub.remove w h c).1.dcs = (Gen.chanmap.Store.DeleteChild w h.dcs c.name).2.1 := by
  rw [remove_nf]

theorem remove_rest (w : Go.World) (h : Hub) (c : Client) :
    (Hub.remove w h c).1.broadcast = h.broadcast ∧ (Hub.remove w h c).1.register = h.register ∧
    (Hub.remove w h c).1.unregister = h.unregister := by
  rw [remove_nf]; exact ⟨rfl, rfl, rfl⟩

theorem deleteChild_closes_nothing (w : Go.World) (s : Gen.chanmap.Store) (c : String) :
    (Gen.chanmap.Store.DeleteChild w s c).2.2 = [] :=
  (TieChanMap.DeleteChild_closes_nothing w {} s c).1

/-- **closed once**: `remove` closes the client's send channel exactly when the client was still filed -/
theorem remove_closes (w : Go.World) (h : Hub) (c : Client) :
    (Hub.remove w h c).2 = (if Go.PMap.has (Go.Map.get h.clients c.topic) c then [c.send] else [])
      ++ (Gen.chanmap.Store.DeleteChild w h.dcs c.name).2.2 := by
  rw [remove_nf]

/-- the second of two consecutive removes closes no send channel -/
theorem remove_idempotent_close (w : Go.World) (h : Hub) (c : Client) :
    (Hub.remove w (Hub.remove w h c).1 c).2
      = (Gen.chanmap.Store.DeleteChild w (Hub.remove w h c).1.dcs c.name).2.2 := by
  have : Go.PMap.has (Go.Map.get (Hub.remove w h c).1.clients c.topic) c = false :=
    Bool.eq_false_iff.2 fun hf => ((remove_filed w h c c.topic c).1 hf).2 ⟨rfl, rfl⟩
  rw [remove_closes, this]; rfl

theorem unregister_eq (w : Go.World) (h : Hub) (c : Client) : Hub.run_unregister w h c = Hub.remove w h c := by
  simp [Hub.run_unregister]

theorem unregister_closes (w : Go.World) (h : Hub) (c : Client) :
    (Hub.run_unregister w h c).2 = ((if filed h c.topic c then [c] else []).map (·.send)) := by
  rw [unregister_eq, remove_closes, deleteChild_closes_nothing]
  unfold filed
  by_cases hf : Go.PMap.has (Go.Map.get h.clients c.topic) c = true <;> simp [hf]

/-- the members a broadcast of `m` looks at, in the order the world picks -/
abbrev scan (w : Go.World) (h : Hub) (m : message) : List (Client × Bool) :=
  w.ordP (Go.Map.get h.clients m.sender.topic)

/-- the scanned members the message is handed to: targets whose queue has room -/
abbrev sentTo (w : Go.World) (h : Hub) (m : message) : List Client :=
  ((scan w h m).filter (fun kv => target m kv.1 && w.ready kv.1.send)).map (·.1)

/-- Go's `slow`: the scanned targets whose queue is full -/
abbrev slow (w : Go.World) (h : Hub) (m : message) : List Client :=
  ((scan w h m).filter (fun kv => target m kv.1 && !w.ready kv.1.send)).map (·.1)

/-- the second loop of the broadcast case: `h.remove` on each of `cs`, the closes collected -/
abbrev evict (w : Go.World) (cs : List Client) (acc : Hub × List Go.Chan) : Hub × List Go.Chan :=
  cs.foldl (fun (acc : Hub × List Go.Chan) c => let r := Hub.remove w acc.1 c; (r.1, acc.2 ++ r.2)) acc

theorem broadcast_eq (w : Go.World) (h : Hub) (m : message) :
    Hub.run_broadcast w h m
      = ((evict w (slow w h m) (h, [])).1, (evict w (slow w h m) (h, [])).2, (sentTo w h m).map (fun c => (c.send, m))) := by
  -- the two loops as translated, with their tuple patterns spelled out
  show (let so := Go.forRangeP (scan w h m) (([] : List Client), ([] : List (Go.Chan × message)))
          (fun acc c _ =>
            if target m c then (if w.ready c.send then (acc.1, acc.2 ++ [(c.send, m)]) else (acc.1 ++ [c], acc.2)) else acc)
        let hf := Go.forSlice so.1 (h, ([] : List Go.Chan)) (fun acc _ c => let r := Hub.remove w acc.1 c; (r.1, acc.2 ++ r.2))
        (hf.1, hf.2, so.2)) = _
  simp only [TopicMap.fanout, Go.forSlice_eq_foldl, List.nil_append]

theorem broadcast_out_sentTo (w : Go.World) (h : Hub) (m : message) :
    (Hub.run_broadcast w h m).2.2 = (sentTo w h m).map (fun c => (c.send, m)) := by
  rw [broadcast_eq]

/-- **sends, exactly**: the out log is the scanned members that are targets and ready, in scan order, each given `m` -/
theorem broadcast_out (w : Go.World) (h : Hub) (m : message) :
    (Hub.run_broadcast w h m).2.2
      = ((w.ordP (Go.Map.get h.clients m.sender.topic)).filter (fun kv => target m kv.1 && w.ready kv.1.send)).map
          (fun kv => (kv.1.send, m)) := by
  rw [broadcast_out_sentTo, List.map_map]; rfl

theorem broadcast_evict (w : Go.World) (h : Hub) (m : message) :
    ((Hub.run_broadcast w h m).1, (Hub.run_broadcast w h m).2.1) = evict w (slow w h m) (h, []) := by
  rw [broadcast_eq]

theorem broadcast_hub (w : Go.World) (h : Hub) (m : message) :
    (Hub.run_broadcast w h m).1
      = ((((w.ordP (Go.Map.get h.clients m.sender.topic)).filter
            (fun kv => target m kv.1 && !w.ready kv.1.send)).map (·.1)).foldl
          (fun (acc : Hub × List Go.Chan) c => let r := Hub.remove w acc.1 c; (r.1, acc.2 ++ r.2)) (h, [])).1 :=
  congrArg Prod.fst (broadcast_evict w h m)

theorem broadcast_fx (w : Go.World) (h : Hub) (m : message) :
    (Hub.run_broadcast w h m).2.1
      = ((((w.ordP (Go.Map.get h.clients m.sender.topic)).filter
            (fun kv => target m kv.1 && !w.ready kv.1.send)).map (·.1)).foldl
          (fun (acc : Hub × List Go.Chan) c => let r := Hub.remove w acc.1 c; (r.1, acc.2 ++ r.2)) (h, [])).2 :=
  congrArg Prod.snd (broadcast_evict w h m)

theorem mem_sentTo (w : Go.World) (hw : w.OrdPOk) (h : Hub) (m : message) (c : Client) :
    c ∈ sentTo w h m ↔ filed h m.sender.topic c ∧ c.name ≠ m.sender.name ∧ w.ready c.send = true := by
  refine (TopicMap.mem_picked w hw (Go.Map.get h.clients m.sender.topic) (fun c => target m c && w.ready c.send) c).trans ?_
  simp only [filed, target, Bool.and_eq_true, Bool.not_eq_true', decide_eq_false_iff_not]

theorem mem_slow (w : Go.World) (hw : w.OrdPOk) (h : Hub) (m : message) (c : Client) :
    c ∈ slow w h m ↔ filed h m.sender.topic c ∧ c.name ≠ m.sender.name ∧ w.ready c.send = false := by
  refine (TopicMap.mem_picked w hw (Go.Map.get h.clients m.sender.topic) (fun c => target m c && !w.ready c.send) c).trans ?_
  simp only [filed, target, Bool.and_eq_true, Bool.not_eq_true', decide_eq_false_iff_not]

/-- **topic isolation, no echo, payload unchanged**: whatever is sent is `m` itself, to a member filed under the
    sender's topic, whose name is not the sender's, and whose queue had room -/
theorem broadcast_only_same_topic_not_self (w : Go.World) (hw : w.OrdPOk) (h : Hub) (m : message)
    (ch : Go.Chan) (m' : message) (hmem : (ch, m') ∈ (Hub.run_broadcast w h m).2.2) :
    m' = m ∧ ∃ c, filed h m.sender.topic c ∧ c.name ≠ m.sender.name ∧ w.ready c.send = true ∧ ch = c.send := by
  rw [broadcast_out_sentTo] at hmem
  obtain ⟨c, hc, e⟩ := List.mem_map.1 hmem
  injection e with e1 e2
  obtain ⟨h1, h2, h3⟩ := (mem_sentTo w hw h m c).1 hc
  exact ⟨e2.symm, c, h1, h2, h3, e1.symm⟩

/-- **nobody is skipped**: every member of the sender's topic other than the sender whose queue has room is sent `m` -/
theorem broadcast_reaches_every_ready_target (w : Go.World) (hw : w.OrdPOk) (h : Hub) (m : message) (c : Client)
    (hf : filed h m.sender.topic c) (hn : c.name ≠ m.sender.name) (hr : w.ready c.send = true) :
    (c.send, m) ∈ (Hub.run_broadcast w h m).2.2 := by
  rw [broadcast_out_sentTo]
  exact List.mem_map.2 ⟨c, (mem_sentTo w hw h m c).2 ⟨hf, hn, hr⟩, rfl⟩

theorem sentTo_nodup (w : Go.World) (hw : w.OrdPOk) (h : Hub) (hwf : WF h) (m : message) : (sentTo w h m).Nodup :=
  TopicMap.picked_nodup w hw _ (hwf.inner _) (fun c => target m c && w.ready c.send)

theorem slow_nodup (w : Go.World) (hw : w.OrdPOk) (h : Hub) (hwf : WF h) (m : message) : (slow w h m).Nodup :=
  TopicMap.picked_nodup w hw _ (hwf.inner _) (fun c => target m c && !w.ready c.send)

/-- **at most once**: the clients sent to (in order) are pairwise different, and the out log is exactly one
    `(c.send, m)` for each of them -/
theorem broadcast_at_most_once (w : Go.World) (hw : w.OrdPOk) (h : Hub) (hwf : WF h) (m : message) :
    (((w.ordP (Go.Map.get h.clients m.sender.topic)).filter (fun kv => target m kv.1 && w.ready kv.1.send)).map (·.1)).Nodup
    ∧ (Hub.run_broadcast w h m).2.2
        = (((w.ordP (Go.Map.get h.clients m.sender.topic)).filter (fun kv => target m kv.1 && w.ready kv.1.send)).map (·.1)).map
            (fun c => (c.send, m)) :=
  ⟨sentTo_nodup w hw h hwf m, broadcast_out_sentTo w h m⟩

theorem broadcast_count_le_one (w : Go.World) (hw : w.OrdPOk) (h : Hub) (hwf : WF h) (m : message) (c : Client) :
    (sentTo w h m).count c ≤ 1 :=
  List.nodup_iff_count.1 (sentTo_nodup w hw h hwf m) c

theorem evict_cons (w : Go.World) (a : Client) (cs : List Client) (h : Hub) (fx : List Go.Chan) :
    evict w (a :: cs) (h, fx) = evict w cs ((Hub.remove w h a).1, fx ++ (Hub.remove w h a).2) := rfl

theorem evict_filed (w : Go.World) (cs : List Client) (h : Hub) (fx : List Go.Chan) (t : String) (c : Client) :
    filed (evict w cs (h, fx)).1 t c ↔ filed h t c ∧ ¬ (c ∈ cs ∧ t = c.topic) := by
  induction cs generalizing h fx with
  | nil => simp [evict]
  | cons a cs ih =>
    -- `e` puts what `remove_filed` excludes into the shape of the right side, where `c ∈ a :: cs` splits into the
    -- two cases and the negation goes to each of them
    have e : (t = a.topic ∧ c = a) ↔ (c = a ∧ t = c.topic) :=
      ⟨fun ⟨ht, hc⟩ => ⟨hc, hc ▸ ht⟩, fun ⟨hc, ht⟩ => ⟨hc ▸ ht, hc⟩⟩
    rw [evict_cons, ih, remove_filed, e, List.mem_cons, or_and_right, not_or, and_assoc]

theorem evict_wf (w : Go.World) (cs : List Client) (h : Hub) (fx : List Go.Chan) (hwf : WF h) :
    WF (evict w cs (h, fx)).1 := by
  induction cs generalizing h fx with
  | nil => exact hwf
  | cons a cs ih => rw [evict_cons]; exact ih _ _ (remove_wf w h a hwf)

/-- what an eviction round does to the child-channel store and which closes it logs, given that every `remove`
    finds its client filed: one `close(c.send)` per client, each followed by the effects of `DeleteChild` -/
abbrev evictLog (w : Go.World) (cs : List Client) (acc : Gen.chanmap.Store × List Go.Chan) :
    Gen.chanmap.Store × List Go.Chan :=
  cs.foldl (fun (acc : Gen.chanmap.Store × List Go.Chan) c =>
    let r := Gen.chanmap.Store.DeleteChild w acc.1 c.name; (r.2.1, acc.2 ++ [c.send] ++ r.2.2)) acc

theorem evict_log (w : Go.World) (cs : List Client) (h : Hub) (fx : List Go.Chan)
    (hnd : cs.Nodup) (hf : ∀ c ∈ cs, filed h c.topic c) :
    ((evict w cs (h, fx)).1.dcs, (evict w cs (h, fx)).2) = evictLog w cs (h.dcs, fx) := by
  induction cs generalizing h fx with
  | nil => rfl
  | cons a cs ih =>
    obtain ⟨hna, hnd'⟩ := List.nodup_cons.1 hnd
    have hfa : Go.PMap.has (Go.Map.get h.clients a.topic) a = true := hf a List.mem_cons_self
    -- the others are other clients than `a`, so removing `a` leaves them filed
    have hf' : ∀ c ∈ cs, filed (Hub.remove w h a).1 c.topic c := fun c hc =>
      (remove_filed w h a c.topic c).2 ⟨hf c (List.mem_cons_of_mem _ hc), fun e => hna (e.2 ▸ hc)⟩
    rw [evict_cons, ih _ _ hnd' hf']
    simp only [evictLog, List.foldl_cons, remove_dcs, remove_closes, hfa, if_true, List.append_assoc]

theorem evictLog_closes (w : Go.World) (cs : List Client) (s : Gen.chanmap.Store) (fx : List Go.Chan) :
    (evictLog w cs (s, fx)).2 = fx ++ cs.map (·.send) := by
  induction cs generalizing s fx with
  | nil => simp [evictLog]
  | cons a cs ih =>
    simp only [evictLog, List.foldl_cons] at ih ⊢
    rw [ih, deleteChild_closes_nothing]
    simp

/-- **exactly the members that could not take the message are dropped, nobody else** -/
theorem broadcast_filed (w : Go.World) (hw : w.OrdPOk) (h : Hub) (hwf : WF h) (m : message) (t : String) (c : Client) :
    filed (Hub.run_broadcast w h m).1 t c
      ↔ filed h t c ∧ ¬ (t = m.sender.topic ∧ c.name ≠ m.sender.name ∧ w.ready c.send = false) := by
  rw [broadcast_eq, evict_filed, mem_slow w hw]
  refine and_congr_right fun h1 => not_congr ⟨?_, ?_⟩
  · rintro ⟨⟨hf, hn, hr⟩, ht⟩; exact ⟨ht.trans (hwf.own _ c hf), hn, hr⟩
  · rintro ⟨e, hn, hr⟩; exact ⟨⟨e ▸ h1, hn, hr⟩, (hwf.own _ c h1).symm⟩

theorem broadcast_wf (w : Go.World) (h : Hub) (m : message) (hwf : WF h) : WF (Hub.run_broadcast w h m).1 := by
  rw [broadcast_hub]
  exact evict_wf w _ h [] hwf

theorem slow_filed (w : Go.World) (hw : w.OrdPOk) (h : Hub) (hwf : WF h) (m : message) :
    ∀ c ∈ slow w h m, filed h c.topic c := by
  intro c hc
  have hf := ((mem_slow w hw h m c).1 hc).1
  rw [hwf.own _ c hf]; exact hf

/-- **each evicted member's send channel is closed, once**: the effect log of a broadcast is, for each dropped
    member in scan order, `close(c.send)` followed by what `DeleteChild` logs -/
theorem broadcast_closes_each_evicted_once (w : Go.World) (hw : w.OrdPOk) (h : Hub) (hwf : WF h) (m : message) :
    ((Hub.run_broadcast w h m).1.dcs, (Hub.run_broadcast w h m).2.1) = evictLog w (slow w h m) (h.dcs, [])
    ∧ (slow w h m).Nodup
    ∧ ∀ pre c post, slow w h m = pre ++ c :: post → filed (evict w pre (h, [])).1 c.topic c := by
  have hnd := slow_nodup w hw h hwf m
  have hsf := slow_filed w hw h hwf m
  refine ⟨?_, hnd, ?_⟩
  · have := evict_log w (slow w h m) h [] hnd hsf
    rw [← broadcast_evict] at this
    exact this
  · -- the clients removed before `c` are other clients: the list has no duplicates
    intro pre c post e
    rw [e] at hnd
    rw [evict_filed]
    exact ⟨hsf c (by rw [e]; exact List.mem_append_right pre List.mem_cons_self),
      fun hc => (List.nodup_append.1 hnd).2.2 c hc.1 c List.mem_cons_self rfl⟩

/-- … and since `DeleteChild` closes nothing: the closes of a broadcast are exactly the send channels of the
    dropped members, one each, in scan order -/
theorem broadcast_closes_exactly (w : Go.World) (hw : w.OrdPOk) (h : Hub) (hwf : WF h) (m : message) :
    (Hub.run_broadcast w h m).2.1 = (slow w h m).map (·.send) := by
  have := congrArg Prod.snd (broadcast_closes_each_evicted_once w hw h hwf m).1
  simp only at this
  rw [this, evictLog_closes]; simp

theorem broadcast_closes_dropped (w : Go.World) (hw : w.OrdPOk) (h : Hub) (hwf : WF h) (m : message) (c : Client)
    (hf : filed h m.sender.topic c) (hn : c.name ≠ m.sender.name) (hr : w.ready c.send = false) :
    c.send ∈ (Hub.run_broadcast w h m).2.1 := by
  rw [broadcast_closes_exactly w hw h hwf]
  exact List.mem_map.2 ⟨c, (mem_slow w hw h m c).2 ⟨hf, hn, hr⟩, rfl⟩

theorem sentTo_slow_disjoint (w : Go.World) (h : Hub) (m : message) (c : Client) (h1 : c ∈ sentTo w h m) (h2 : c ∈ slow w h m) :
    False :=
  TopicMap.picked_disjoint (scan w h m) (target m) (fun c => w.ready c.send) c h1 h2

theorem empty_wf : WF (default : Hub) :=
  ⟨fun _ => trivial, fun _ _ hf => by cases hf⟩

/-- what `Hub.run` can receive on its three channels -/
inductive Ev where
  | register (c : Client)
  | unregister (c : Client)
  | broadcast (m : message)

/-- one iteration of the `select` loop of `Hub.run`, with the TRANSLATED case bodies -/
def loopStep (w : Go.World) (h : Hub) : Ev → Hub
  | .register c => Hub.run_register w h c
  | .unregister c => (Hub.run_unregister w h c).1
  | .broadcast m => (Hub.run_broadcast w h m).1

/-- a history: the i-th iteration runs in world `wf i` (its own iteration order, its own full queues) -/
def loopRun (wf : Nat → Go.World) : Nat → Hub → List Ev → Hub
  | _, h, [] => h
  | i, h, e :: es => loopRun wf (i + 1) (loopStep (wf i) h e) es

theorem loopRun_wf (wf : Nat → Go.World) (es : List Ev) (i : Nat) (h : Hub) (hwf : WF h) : WF (loopRun wf i h es) := by
  induction es generalizing i h with
  | nil => exact hwf
  | cons e es ih =>
    refine ih _ _ ?_
    cases e with
    | register c => exact register_wf (wf i) h c hwf
    | unregister c => simp only [loopStep, unregister_eq]; exact remove_wf (wf i) h c hwf
    | broadcast m => exact broadcast_wf (wf i) h m hwf

/-- after ANY history from the empty hub, in ANY worlds, the invariant holds (so the `WF` hypotheses above are met
    by every hub the event loop can be in) -/
theorem reachable_wf (wf : Nat → Go.World) (es : List Ev) : WF (loopRun wf 0 default es) :=
  loopRun_wf wf es 0 default empty_wf

/-- every function of the package's event loop is translated -/
theorem coverage : Gen.crossbar.untranslated = [] ∧
    Gen.crossbar.translated = ["Hub.remove", "Hub.run_broadcast", "Hub.run_register", "Hub.run_unregister"] := by
  constructor <;> rfl

/-! ## Refinement: the translated event loop against the hand-written hub model (`Relay/Model/Hub.lean`)

The model keeps a list of members named by numbers; the translated hub keeps, per topic, a set of client objects
named by strings. `Sim nameOf h M` relates the two: the members of `M` correspond one-to-one to the clients
filed in `h`. A translated broadcast / remove / register then does what `Hub.broadcast` / `Hub.step … (.unregister _)` /
`Hub.step … (.register …)` does — provided the world's "queue has room" answers are those of the model queues. -/

abbrev MHub := _root_.Hub.Hub
abbrev MClient := _root_.Hub.Client
abbrev MMsg := _root_.Hub.Msg

/-- the model member `mc` stands for the client `c` filed in `h` -/
structure Corr (nameOf : String → Nat) (h : Hub) (c : Client) (mc : MClient) : Prop where
  filed : filed h mc.topic c
  name : mc.name = nameOf c.name
  canRead : mc.canRead = c.canRead
  canWrite : mc.canWrite = c.canWrite

theorem Corr.of_same {nameOf : String → Nat} {h h' : Hub} {c : Client} {mc mc' : MClient} (hc : Corr nameOf h c mc)
    (s : _root_.Hub.Same mc' mc) (hf : TieHub.filed h' mc'.topic c) : Corr nameOf h' c mc' :=
  ⟨hf, s.name.trans hc.name, s.canRead.trans hc.canRead, s.canWrite.trans hc.canWrite⟩

structure Sim (nameOf : String → Nat) (h : Hub) (M : MHub) : Prop where
  /-- `nameOf` tells filed clients apart -/
  inj : ∀ t t' c c', TieHub.filed h t c → TieHub.filed h t' c' → nameOf c.name = nameOf c'.name → c = c'
  /-- member names are pairwise different (`Hub.HubInv.nodup`) -/
  nodup : M.members.Pairwise (fun a b => a.name ≠ b.name)
  fwd : ∀ t c, TieHub.filed h t c → ∃ mc ∈ M.members, mc.topic = t ∧ Corr nameOf h c mc
  bwd : ∀ mc ∈ M.members, ∃ c, Corr nameOf h c mc

theorem sim_empty (nameOf : String → Nat) : Sim nameOf default {} :=
  ⟨fun _ _ _ _ hf => (by cases hf), List.Pairwise.nil, fun _ _ hf => (by cases hf), fun _ hmc => (by cases hmc)⟩

theorem Sim.client_unique {nameOf : String → Nat} {h : Hub} {M : MHub} (hs : Sim nameOf h M) {c c' : Client} {mc : MClient}
    (h1 : Corr nameOf h c mc) (h2 : Corr nameOf h c' mc) : c = c' :=
  hs.inj _ _ c c' h1.filed h2.filed (h1.name.symm.trans h2.name)

theorem pairwise_name_unique (l : List MClient) (hp : l.Pairwise (fun a b => a.name ≠ b.name)) (a b : MClient)
    (ha : a ∈ l) (hb : b ∈ l) (e : a.name = b.name) : a = b :=
  _root_.Hub.name_unique hp ha hb e

theorem Sim.member_unique {nameOf : String → Nat} {h : Hub} {M : MHub} (hs : Sim nameOf h M) {c : Client} {mc mc' : MClient}
    (hm : mc ∈ M.members) (hm' : mc' ∈ M.members) (h1 : Corr nameOf h c mc) (h2 : Corr nameOf h c mc') : mc = mc' :=
  pairwise_name_unique _ hs.nodup mc mc' hm hm' (h1.name.trans h2.name.symm)

/-- `Sim` looks at `nameOf` only on the names of filed clients -/
theorem Sim.congr {f g : String → Nat} {h : Hub} {M : MHub} (hs : Sim f h M)
    (hfg : ∀ t c, filed h t c → g c.name = f c.name) : Sim g h M :=
  have hco : ∀ c mc, Corr f h c mc → Corr g h c mc := fun c mc hc =>
    ⟨hc.filed, hc.name.trans (hfg _ c hc.filed).symm, hc.canRead, hc.canWrite⟩
  { inj := fun t t' c c' h1 h2 e => hs.inj t t' c c' h1 h2 (by rw [← hfg t c h1, ← hfg t' c' h2]; exact e)
    nodup := hs.nodup
    fwd := fun t c hf => (hs.fwd t c hf).imp fun mc ⟨hm, ht, hc⟩ => ⟨hm, ht, hco c mc hc⟩
    bwd := fun mc hmc => (hs.bwd mc hmc).imp fun c => hco c mc }

theorem m_offer_some (c c' : MClient) (m : MMsg) (h : _root_.Hub.offer c m = some c') :
    c'.name = c.name ∧ c'.topic = c.topic ∧ c'.canRead = c.canRead ∧ c'.canWrite = c.canWrite ∧
    ¬ (_root_.Hub.wants c m = true ∧ _root_.Hub.hasRoom c = false) :=
  have s := _root_.Hub.offer_same h
  ⟨s.name, s.topic, s.canRead, s.canWrite, fun hn => by rw [(_root_.Hub.offer_none_iff c m).2 hn] at h; cases h⟩

/-- steps that only drop (`Hub.broadcast`: `f` is `offer`; `unregister`: a filter): the hub drops the filed clients
    `gone`, the model drops the members standing for them and leaves name, topic and rights of the others alone -/
theorem Sim.filterMap {nameOf : String → Nat} {h h' : Hub} {M M' : MHub} (hs : Sim nameOf h M)
    (f : MClient → Option MClient) (gone : String → Client → Prop)
    (hM : M'.members = M.members.filterMap f)
    (hfiled : ∀ t c, filed h' t c ↔ filed h t c ∧ ¬ gone t c)
    (hid : ∀ a b, f a = some b → _root_.Hub.Same b a)
    (hgone : ∀ c mc, mc ∈ M.members → Corr nameOf h c mc → (gone mc.topic c ↔ f mc = none)) :
    Sim nameOf h' M' := by
  have keep : ∀ c mc mc', mc ∈ M.members → Corr nameOf h c mc → f mc = some mc' → Corr nameOf h' c mc' := by
    intro c mc mc' hmc hc e
    refine hc.of_same (hid mc mc' e) ?_
    rw [(hid mc mc' e).topic]
    exact (hfiled _ c).2 ⟨hc.filed, fun hg => by rw [(hgone c mc hmc hc).1 hg] at e; cases e⟩
  refine ⟨?_, ?_, ?_, ?_⟩
  · intro t t' c c' h1 h2
    exact hs.inj t t' c c' ((hfiled t c).1 h1).1 ((hfiled t' c').1 h2).1
  · rw [hM]
    refine List.Pairwise.filterMap _ ?_ hs.nodup
    intro a a' hne b hb b' hb'
    rw [(hid a b hb).name, (hid a' b' hb').name]; exact hne
  · intro t c hf
    obtain ⟨hf0, hnot⟩ := (hfiled t c).1 hf
    obtain ⟨mc, hmc, ht, hc⟩ := hs.fwd t c hf0
    cases e : f mc with
    | none => exact absurd ((hgone c mc hmc hc).2 e) (ht ▸ hnot)
    | some mc' =>
      exact ⟨mc', hM ▸ List.mem_filterMap.2 ⟨mc, hmc, e⟩, (hid mc mc' e).topic.trans ht, keep c mc mc' hmc hc e⟩
  · intro mc' hmem
    obtain ⟨mc, hmc, e⟩ := List.mem_filterMap.1 (hM ▸ hmem)
    obtain ⟨c, hc⟩ := hs.bwd mc hmc
    exact ⟨c, keep c mc mc' hmc hc e⟩

theorem Sim.map {nameOf : String → Nat} {h : Hub} {M : MHub} (hs : Sim nameOf h M) (g : MClient → MClient)
    (hg : ∀ mc, _root_.Hub.Same (g mc) mc) : Sim nameOf h { M with members := M.members.map g } :=
  hs.filterMap (fun mc => some (g mc)) (fun _ _ => False)
    (hM := List.filterMap_eq_map' (f := g) ▸ rfl)
    (hfiled := fun _ _ => ⟨fun hf => ⟨hf, id⟩, And.left⟩)
    (hid := fun a _ e => Option.some.inj e ▸ hg a)
    (hgone := fun _ mc _ _ => ⟨False.elim, Option.some_ne_none (g mc)⟩)

/-- **one translated broadcast step is one `Hub.broadcast` of the model**: the clients sent to are the members whose
    `offer` enqueues, the clients dropped are `Hub.evicted`, and the correspondence holds again afterwards.
    `hsn`: the sender's name is not confused with another member's (true when the sender is filed, `hsn_of_sender_filed`,
    or when `nameOf` is injective, `hsn_of_injective`); `hag`: the world's answer "this send queue has room" is the model
    queue's. -/
theorem sim_broadcast (nameOf : String → Nat) (w : Go.World) (hw : w.OrdPOk) (h : Hub) (hwf : WF h) (M : MHub)
    (hs : Sim nameOf h M) (m : message) (msg : MMsg)
    (hms : msg.sender = nameOf m.sender.name) (hmt : msg.topic = m.sender.topic)
    (hsn : ∀ c, filed h m.sender.topic c → nameOf c.name = nameOf m.sender.name → c.name = m.sender.name)
    (hag : ∀ c mc, filed h m.sender.topic c → mc ∈ M.members → mc.name = nameOf c.name →
      w.ready c.send = _root_.Hub.hasRoom mc) :
    Sim nameOf (Hub.run_broadcast w h m).1 (_root_.Hub.broadcast M msg)
    ∧ (∀ c mc, Corr nameOf h c mc → mc ∈ M.members →
        (c ∈ sentTo w h m ↔ (_root_.Hub.offer mc msg).map (·.queue) = some (mc.queue ++ [msg])))
    ∧ (∀ c mc, Corr nameOf h c mc → mc ∈ M.members → (c ∈ slow w h m ↔ mc ∈ _root_.Hub.evicted M.members msg)) := by
  -- a client is filed under its own topic only (`WF.own`), and that is its member's topic
  have ft : ∀ c mc, Corr nameOf h c mc → (filed h m.sender.topic c ↔ mc.topic = m.sender.topic) :=
    fun c mc hc => ⟨fun hf => (hwf.own _ c hc.filed).symm.trans (hwf.own _ c hf), fun e => e ▸ hc.filed⟩
  have key : ∀ c mc, Corr nameOf h c mc →
      (_root_.Hub.wants mc msg = true ↔ (filed h m.sender.topic c ∧ c.name ≠ m.sender.name)) := by
    intro c mc hc
    rw [_root_.Hub.wants_iff, hms, hmt, hc.name, ft c mc hc]
    exact and_congr_right fun e => ⟨fun hn e' => hn (by rw [e']), fun hn e' => hn (hsn c ((ft c mc hc).2 e) e')⟩
  -- the hinge: each of the three parts below is this equivalence, at `b = true` (sent) or `b = false` (dropped)
  have tgt : ∀ c mc (b : Bool), Corr nameOf h c mc → mc ∈ M.members →
      ((filed h m.sender.topic c ∧ c.name ≠ m.sender.name ∧ w.ready c.send = b)
        ↔ (_root_.Hub.wants mc msg = true ∧ _root_.Hub.hasRoom mc = b)) := by
    intro c mc b hc hmc
    rw [key c mc hc, ← and_assoc]
    exact and_congr_right fun h1 => by rw [hag c mc h1.1 hmc hc.name]
  refine ⟨hs.filterMap (fun mc => _root_.Hub.offer mc msg)
      (fun t c => t = m.sender.topic ∧ c.name ≠ m.sender.name ∧ w.ready c.send = false) rfl
      (broadcast_filed w hw h hwf m) (fun _ _ => _root_.Hub.offer_same) ?_, ?_, ?_⟩
  · intro c mc hmc hc
    rw [_root_.Hub.offer_none_iff, ← tgt c mc false hc hmc, ft c mc hc]
  · intro c mc hc hmc
    rw [_root_.Hub.offer_queue_iff, mem_sentTo w hw]; exact tgt c mc true hc hmc
  · intro c mc hc hmc
    rw [mem_slow w hw, _root_.Hub.mem_evicted, and_iff_right hmc]
    exact tgt c mc false hc hmc

theorem hsn_of_sender_filed (nameOf : String → Nat) (h : Hub) (M : MHub) (hs : Sim nameOf h M) (m : message)
    (hf : filed h m.sender.topic m.sender) :
    ∀ c, filed h m.sender.topic c → nameOf c.name = nameOf m.sender.name → c.name = m.sender.name :=
  fun c hc e => by rw [hs.inj _ _ c m.sender hc hf e]

theorem hsn_of_injective (nameOf : String → Nat) (hinj : ∀ a b, nameOf a = nameOf b → a = b) (h : Hub) (m : message) :
    ∀ c, filed h m.sender.topic c → nameOf c.name = nameOf m.sender.name → c.name = m.sender.name :=
  fun _ _ e => hinj _ _ e

/-- **one translated `remove` (= `run_unregister`) is the model's `unregister`**. `hc`: no OTHER filed client carries
    the name being removed (true when `c` is filed, by `Sim.inj`). -/
theorem sim_remove (nameOf : String → Nat) (w : Go.World) (h : Hub) (hwf : WF h) (M : MHub) (hs : Sim nameOf h M) (c : Client)
    (hc : ∀ t c', filed h t c' → nameOf c'.name = nameOf c.name → c' = c) :
    Sim nameOf (Hub.remove w h c).1 (_root_.Hub.step M (.unregister (nameOf c.name))) := by
  refine hs.filterMap (Option.guard (·.name != nameOf c.name)) (fun t c' => t = c.topic ∧ c' = c)
    (by rw [List.filterMap_eq_filter]; rfl) (remove_filed w h c) ?_ ?_
  · intro a b e
    rw [(Option.guard_eq_some_iff.1 e).1]; exact .rfl
  · intro a mc _ hco
    rw [Option.guard_eq_none_iff, bne_eq_false_iff_eq, hco.name]
    constructor
    · rintro ⟨_, e⟩; rw [e]
    · intro e
      have := hc _ a hco.filed e
      subst this
      exact ⟨(hwf.own _ _ hco.filed).symm, rfl⟩

theorem sim_unregister (nameOf : String → Nat) (w : Go.World) (h : Hub) (hwf : WF h) (M : MHub) (hs : Sim nameOf h M) (c : Client)
    (hf : filed h c.topic c) :
    Sim nameOf (Hub.run_unregister w h c).1 (_root_.Hub.step M (.unregister (nameOf c.name))) := by
  rw [unregister_eq]
  exact sim_remove nameOf w h hwf M hs c (fun t c' hf' e => hs.inj t c.topic c' c hf' hf e)

/-- what the model removes on `unregister` is the member standing for `c` (when `c` is filed) -/
theorem sim_remove_gone (nameOf : String → Nat) (h : Hub) (M : MHub) (hs : Sim nameOf h M) (c : Client) (mc : MClient)
    (hmc : mc ∈ M.members) (hco : Corr nameOf h c mc) :
    M.members.filter (·.name == nameOf c.name) = [mc] := by
  rw [← hco.name]; exact _root_.Hub.filter_name hs.nodup hmc

/-- **one translated `run_register` is the model's `register`**, for a client whose name is the model's next fresh
    name (`hfresh` follows from `Hub.Good.fresh` of the model invariant) -/
theorem sim_register (nameOf : String → Nat) (w : Go.World) (h : Hub) (M : MHub) (hs : Sim nameOf h M) (c : Client)
    (bid : String) (cap : Nat) (hn : nameOf c.name = M.next) (hfresh : ∀ mc ∈ M.members, mc.name ≠ M.next) :
    Sim nameOf (Hub.run_register w h c) (_root_.Hub.step M (.register c.topic bid c.canRead c.canWrite cap)) := by
  have hnew : ∀ t a, filed h t a → nameOf a.name ≠ M.next := by
    intro t a hf e
    obtain ⟨mc, hmc, _, hco⟩ := hs.fwd t a hf
    exact hfresh mc hmc (hco.name.trans e)
  have lift : ∀ {a mc}, Corr nameOf h a mc → Corr nameOf (Hub.run_register w h c) a mc :=
    fun hco => hco.of_same .rfl ((register_filed w h c _ _).2 (Or.inl hco.filed))
  have hc : Corr nameOf (Hub.run_register w h c) c
      { name := M.next, topic := c.topic, bid := bid, canRead := c.canRead, canWrite := c.canWrite, cap := cap,
        joinedAt := M.sent.length } :=
    ⟨(register_filed w h c _ c).2 (Or.inr ⟨rfl, rfl⟩), hn.symm, rfl, rfl⟩
  refine ⟨?_, ?_, ?_, ?_⟩
  · intro t t' a a' h1 h2 e
    rcases (register_filed w h c t a).1 h1 with f1 | ⟨_, f1⟩ <;>
      rcases (register_filed w h c t' a').1 h2 with f2 | ⟨_, f2⟩
    · exact hs.inj t t' a a' f1 f2 e
    · subst f2; exact absurd (e.trans hn) (hnew t a f1)
    · subst f1; exact absurd (e.symm.trans hn) (hnew t' a' f2)
    · rw [f1, f2]
  · exact List.pairwise_append.2 ⟨hs.nodup, List.pairwise_singleton _ _,
      fun a ha b hb => List.mem_singleton.1 hb ▸ hfresh a ha⟩
  · intro t a hf
    rcases (register_filed w h c t a).1 hf with f | ⟨rfl, rfl⟩
    · obtain ⟨mc, hmc, ht, hco⟩ := hs.fwd t a f
      exact ⟨mc, List.mem_append_left _ hmc, ht, lift hco⟩
    · exact ⟨_, List.mem_append_right _ List.mem_cons_self, rfl, hc⟩
  · intro mc hmem
    rcases List.mem_append.1 hmem with hm | hm
    · obtain ⟨a, hco⟩ := hs.bwd mc hm
      exact ⟨a, lift hco⟩
    · rw [List.mem_singleton.1 hm]; exact ⟨c, hc⟩

/-! ## a concrete hub: the hypotheses are satisfiable and the conclusions say something -/

namespace Demo

def a : Client := { (default : Client) with name := "a", topic := "t", send := 1, bookingID := "b", denied := 11, addr__ := 1 }
def b : Client := { (default : Client) with name := "b", topic := "t", send := 2, bookingID := "b", denied := 12, addr__ := 2 }
def c : Client := { (default : Client) with name := "c", topic := "t", send := 3, bookingID := "b", denied := 13, addr__ := 3 }
def d : Client := { (default : Client) with name := "d", topic := "u", send := 4, bookingID := "b", denied := 14, addr__ := 4 }

/-- ranges over maps backwards; the queue of `b` (channel 2) is full -/
def w : Go.World := { now := 0, fresh := "", ord := fun l => l, ordP := fun l => l.reverse, ready := fun ch => ch != 2 }

theorem w_ok : w.OrdPOk := fun _ _ m => List.reverse_perm m

def hub : Hub := Hub.run_register w (Hub.run_register w (Hub.run_register w (Hub.run_register w default a) b) c) d

theorem hub_wf : WF hub := register_wf _ _ _ (register_wf _ _ _ (register_wf _ _ _ (register_wf _ _ _ empty_wf)))

def msg : message := { sender := a, mt := 1, data := [104, 105] }

example : filed hub "t" a ∧ filed hub "t" b ∧ filed hub "t" c ∧ filed hub "u" d ∧ ¬ filed hub "t" d := by decide +kernel

/-- it goes to `c` only (not back to `a`, not to `d` on the other topic, not to `b` whose queue is full) … -/
example : (Hub.run_broadcast w hub msg).2.2 = [(3, msg)] := by rfl
/-- … `b` is dropped and its send channel closed, nobody else's … -/
example : (Hub.run_broadcast w hub msg).2.1 = [2] := by decide +kernel
example : sentTo w hub msg = [c] ∧ slow w hub msg = [b] := by decide +kernel
example : filed (Hub.run_broadcast w hub msg).1 "t" a ∧ ¬ filed (Hub.run_broadcast w hub msg).1 "t" b ∧
    filed (Hub.run_broadcast w hub msg).1 "t" c ∧ filed (Hub.run_broadcast w hub msg).1 "u" d := by decide +kernel

/-- … as the general theorems say -/
example : (c.send, msg) ∈ (Hub.run_broadcast w hub msg).2.2 :=
  broadcast_reaches_every_ready_target w w_ok hub msg c (by decide) (by decide) (by decide)
example : b.send ∈ (Hub.run_broadcast w hub msg).2.1 :=
  broadcast_closes_dropped w w_ok hub hub_wf msg b (by decide) (by decide) (by decide)
example : ¬ filed (Hub.run_broadcast w hub msg).1 "t" b :=
  fun hf => ((broadcast_filed w w_ok hub hub_wf msg "t" b).1 hf).2 ⟨rfl, by decide, by decide⟩
example : (Hub.run_broadcast w hub msg).2.1 = [b.send] := by
  rw [broadcast_closes_exactly w w_ok hub hub_wf]; decide +kernel

example : (Hub.remove w hub b).2 = [2] ∧ (Hub.remove w (Hub.remove w hub b).1 b).2 = [] := by decide +kernel

/-! ### … and the refinement hypotheses are satisfiable: the same hub against a model history -/

def nameOf (s : String) : Nat := if s = "a" then 0 else if s = "b" then 1 else if s = "c" then 2 else 3

/-- the model after the same four registrations; the queue of the second member (`b`) has capacity 0: it is full -/
def model : MHub :=
  _root_.Hub.step (_root_.Hub.step (_root_.Hub.step (_root_.Hub.step {}
    (.register a.topic "b" a.canRead a.canWrite 1)) (.register b.topic "b" b.canRead b.canWrite 0))
    (.register c.topic "b" c.canRead c.canWrite 1)) (.register d.topic "b" d.canRead d.canWrite 1)

theorem hub_sim : Sim nameOf hub model :=
  sim_register nameOf w _ _ (sim_register nameOf w _ _ (sim_register nameOf w _ _ (sim_register nameOf w _ _
    (sim_empty nameOf) a "b" 1 (by decide) (by decide)) b "b" 0 (by decide) (by decide)) c "b" 1 (by decide) (by decide))
    d "b" 1 (by decide) (by decide)

def mmsg : MMsg := { sender := 0, topic := "t", data := [104, 105] }

theorem hub_agree : ∀ x mc, filed hub msg.sender.topic x → mc ∈ model.members → mc.name = nameOf x.name →
    w.ready x.send = _root_.Hub.hasRoom mc := by
  intro x mc hf hmc hn
  obtain ⟨v, hv⟩ := (phas_iff_mem _ _).1 hf
  -- three filed clients, four members: a finite table
  have tbl : ∀ kv ∈ Go.Map.get hub.clients msg.sender.topic, ∀ mc ∈ model.members, mc.name = nameOf kv.1.name →
      w.ready kv.1.send = _root_.Hub.hasRoom mc := by decide +kernel
  exact tbl _ hv mc hmc hn

example : Sim nameOf (Hub.run_broadcast w hub msg).1 (_root_.Hub.broadcast model mmsg) :=
  (sim_broadcast nameOf w w_ok hub hub_wf model hub_sim msg mmsg rfl rfl
    (hsn_of_sender_filed nameOf hub model hub_sim msg (by decide +kernel)) hub_agree).1

end Demo

end TieHub
