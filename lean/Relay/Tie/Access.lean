import Relay.Extracted.GenAccess
import Relay.Extracted.GenPermission
import Relay.Props.C01
import Relay.Tie.Deny
import Relay.Tie.TtlCode

/-!
# Tie: the scope / required-claims decisions of the access API, translated from today's source
(`internal/access/access.go`: `claimsCheck`, `isRelayAdmin`, `hasStatsScope`; `internal/permission/models.go`:
`HasRequiredClaims`), ARE the model's decision functions — for every bearer and every principal; and the translated
handlers of `access.go` act on the shared stores, through the translated `deny` / `ttlcode` methods, as the model's steps do.
-/

namespace TieAccess
open Access

def claimsOf (b : Bearer) : Gen.permission.Token :=
  { BookingID := b.bid, Topic := b.topic, ConnectionType := b.pfx, Scopes := b.scopes,
    RegisteredClaims := { Audience := b.aud, ExpiresAt := b.exp.map (fun e => { unix := e }),
                          NotBefore := b.nbf.map (fun e => { unix := e }), IssuedAt := b.iat.map (fun e => { unix := e }) } }

/-- what `validateHeader` hands to the handlers for a token it accepted -/
def prin (b : Bearer) : Go.Principal := { isJwt := true, token := { Claims := { isToken := true, asToken := claimsOf b } } }

theorem beq_dec {α : Type} [DecidableEq α] [BEq α] [LawfulBEq α] (a b : α) : (a == b) = decide (a = b) :=
  Bool.beq_eq_decide_eq a b

theorem sliceLen_zero {α : Type} (l : List α) : decide (Go.sliceLen l = (0 : Int)) = l.isEmpty := by
  rw [Bool.eq_iff_iff, decide_eq_true_iff]
  exact Go.sliceLen_eq_zero l

/-- the scope search loop of `isRelayAdmin` / `hasStatsScope` -/
theorem scope_loop (l : List String) (s : String) (acc : Bool) :
    Go.forSlice l acc (fun acc _ scope => if (decide (scope = s)) = true then true else acc) = (acc || l.contains s) := by
  rw [Go.forSlice_eq_foldl]
  induction l generalizing acc with
  | nil => simp
  | cons x l ih =>
    simp only [List.foldl_cons]
    rw [ih]
    by_cases h : x = s
    · simp [h]
    · have h' : ¬ s = x := fun e => h e.symm
      simp [h, h']

theorem expired_part (o : Option Int) :
    (((o.map (fun e => ({ unix := e } : Go.NumericDate))).isNone) || (Go.NumericDate.IsZero (Go.deref (o.map (fun e => ({ unix := e } : Go.NumericDate))))))
      = (match o with | none => true | some e => e == zeroTimeUnix) := by
  cases o with
  | none => rfl
  | some e => by_cases h : e = -62135596800 <;> simp [Go.deref, Go.NumericDate.IsZero, zeroTimeUnix, h]

theorem sliceLen_nil {α : Type} : Go.sliceLen ([] : List α) = 0 := rfl

theorem hasRequiredClaims_tie (w : Go.World) (b : Bearer) :
    Gen.permission.HasRequiredClaims w (claimsOf b) = hasRequiredClaims b := by
  simp only [Gen.permission.HasRequiredClaims, claimsOf, hasRequiredClaims, Go.sliceLen_eq_zero, Bool.decide_eq_true, Bool.or_assoc,
    expired_part, beq_dec, Go.ite_false_true]
  -- what is left differs only in the instance that decides `b.topic = ""` and the like
  rfl

theorem claimsCheck_tie (w : Go.World) (b : Bearer) :
    Gen.access.claimsCheck w (prin b) =
      if claimsCheck b = true then (claimsOf b, none) else (default, some "Token Missing Required Claims") := by
  simp only [Gen.access.claimsCheck, prin, claimsOf, claimsCheck, Go.sliceLen_eq_zero, Bool.decide_eq_true, Bool.or_assoc, expired_part,
    beq_dec, Bool.not_true, Bool.false_eq_true, if_false, Go.ite_bnot]
  rfl

theorem claimsCheck_not_jwt (w : Go.World) (p : Go.Principal) (h : p.isJwt = false) :
    (Gen.access.claimsCheck w p).2 = some "Token Not JWT" := by
  simp [Gen.access.claimsCheck, h]

theorem claimsCheck_wrong_claims (w : Go.World) (p : Go.Principal) (h : p.isJwt = true) (h2 : p.token.Claims.isToken = false) :
    (Gen.access.claimsCheck w p).2 = some "Token Claims Incorrect Type" := by
  simp [Gen.access.claimsCheck, h, h2]

theorem isRelayAdmin_tie (w : Go.World) (b : Bearer) :
    (Gen.access.isRelayAdmin w (prin b)).2 =
      if claimsCheck b = true then (if b.scopes.contains "relay:admin" = true then none else some "Missing relay:admin Scope")
      else some "Token Missing Required Claims" := by
  simp only [Gen.access.isRelayAdmin, claimsCheck_tie]
  by_cases hc : claimsCheck b = true
  · simp only [hc, if_true, Option.isNone_none, Bool.not_true, Bool.false_eq_true, if_false, claimsOf, scope_loop, Bool.false_or,
      Go.ite_bnot]
    exact apply_ite Prod.snd ..
  · simp [hc]

theorem hasStatsScope_tie (w : Go.World) (b : Bearer) :
    (Gen.access.hasStatsScope w (prin b)).2 =
      if claimsCheck b = true then (if b.scopes.contains "relay:stats" = true then none else some "Missing relay:stats Scope")
      else some "Token Missing Required Claims" := by
  simp only [Gen.access.hasStatsScope, claimsCheck_tie]
  by_cases hc : claimsCheck b = true
  · simp only [hc, if_true, Option.isNone_none, Bool.not_true, Bool.false_eq_true, if_false, claimsOf, scope_loop, Bool.false_or,
      Go.ite_bnot]
    exact apply_ite Prod.snd ..
  · simp [hc]

theorem isRelayAdmin_err_isNone (w : Go.World) (t : Bearer) :
    ((Gen.access.isRelayAdmin w (prin t)).2).isNone = isRelayAdmin t := by
  rw [isRelayAdmin_tie]
  by_cases hc : claimsCheck t = true <;> simp [isRelayAdmin, hc, apply_ite Option.isNone]

/-- the admin endpoints' decision in one line: granted exactly when the model says so -/
theorem admin_granted_iff (w : Go.World) (b : Bearer) :
    (Gen.access.isRelayAdmin w (prin b)).2 = none ↔ isRelayAdmin b = true := by
  rw [← isRelayAdmin_err_isNone w b, Option.isNone_iff_eq_none]

theorem stats_granted_iff (w : Go.World) (b : Bearer) :
    (Gen.access.hasStatsScope w (prin b)).2 = none ↔ hasStatsScope b = true := by
  rw [hasStatsScope_tie]
  by_cases hc : claimsCheck b = true <;> simp [hasStatsScope, hc]

/-! ## The admin handlers (`denyHandler`, `allowHandler`, `listDeniedHandler`, `listAllowedHandler`) as translated today

The handlers receive the principal `validateHeader` accepted and the parameters go-openapi bound; they act on the shared
stores through the configuration. `CfgOk` says which register / code-store model states the configuration holds. -/

structure CfgOk (name : Nat → String) (cfg : Gen.access.Config) (reg : Deny.Reg) (codes : TtlCode.Store) : Prop where
  reg : cfg.DenyStore = TieDeny.toGen reg
  codes : cfg.CodeStore = TieTtlCode.toGen name codes

/-- the status the guards of `denyHandler` / `allowHandler` end in, in the handlers' order (204: all passed); `now` is the deny store's clock -/
def adminGuard (t : Bearer) (b : String) (e now : Int) : Nat :=
  if isRelayAdmin t = false then 401 else if b = "" then 400 else if e < now then 400 else 204

theorem adminGuard_eq_204 (t : Bearer) (b : String) (e now : Int) :
    adminGuard t b e now = 204 ↔ isRelayAdmin t = true ∧ b ≠ "" ∧ ¬ e < now := by
  by_cases ha : isRelayAdmin t = true <;> by_cases hb : b = "" <;> by_cases he : e < now <;> simp [adminGuard, ha, hb, he]

theorem denyHandler_eq (w : Go.World) (cfg : Gen.access.Config) (b : String) (e : Int) (t : Bearer) :
    let r := Gen.access.denyHandler w cfg { Bid := b, Exp := e } (prin t)
    let c := adminGuard t b e (cfg.DenyStore.Now ())
    r.1.code = c ∧ (c = 204 → r.1 = .status 204) ∧
    r.2 = if c = 204 then
        ({ cfg with DenyStore := Gen.deny.Store.Deny w cfg.DenyStore b e,
                    CodeStore := Gen.ttlcode.CodeStore.DeleteByBookingID w cfg.CodeStore b }, [b])
      else (cfg, []) := by
  simp only [Gen.access.denyHandler, isRelayAdmin_err_isNone, adminGuard]
  by_cases ha : isRelayAdmin t = true
  · by_cases hb : b = "" <;> by_cases he : e < cfg.DenyStore.Now () <;> simp [ha, hb, he, Go.Resp.code]
  · simp [ha, Go.Resp.code]

theorem allowHandler_eq (w : Go.World) (cfg : Gen.access.Config) (b : String) (e : Int) (t : Bearer) :
    let r := Gen.access.allowHandler w cfg { Bid := b, Exp := e } (prin t)
    let c := adminGuard t b e (cfg.DenyStore.Now ())
    r.1.code = c ∧ (c = 204 → r.1 = .status 204) ∧
    r.2 = if c = 204 then { cfg with DenyStore := Gen.deny.Store.Allow w cfg.DenyStore b e } else cfg := by
  simp only [Gen.access.allowHandler, isRelayAdmin_err_isNone, adminGuard]
  by_cases ha : isRelayAdmin t = true
  · by_cases hb : b = "" <;> by_cases he : e < cfg.DenyStore.Now () <;> simp [ha, hb, he, Go.Resp.code]
  · simp [ha, Go.Resp.code]

theorem CfgOk.now {name : Nat → String} {cfg : Gen.access.Config} {reg : Deny.Reg} {codes : TtlCode.Store}
    (h : CfgOk name cfg reg codes) : cfg.DenyStore.Now () = reg.now := by rw [h.reg]; rfl

/-- `denyHandler`: refusals leave the configuration alone and notify nobody; a granted request lists the booking, purges its
    codes and sends exactly one notification, the booking id — the model's `denyReq` after authentication and binding -/
theorem denyHandler_tie (name : Nat → String) (hinj : Function.Injective name) (w : Go.World) (cfg : Gen.access.Config)
    (reg : Deny.Reg) (codes : TtlCode.Store) (hcfg : CfgOk name cfg reg codes) (hw : TieTtlCode.WorldOk name w codes)
    (hg : TieTtlCode.Good codes) (b : String) (e : Int) (t : Bearer) :
    let r := Gen.access.denyHandler w cfg { Bid := b, Exp := e } (prin t)
    (isRelayAdmin t = false → r.1.code = 401 ∧ r.2.1 = cfg ∧ r.2.2 = []) ∧
    (isRelayAdmin t = true → b = "" → r.1.code = 400 ∧ r.2.1 = cfg ∧ r.2.2 = []) ∧
    (isRelayAdmin t = true → b ≠ "" → e < reg.now → r.1.code = 400 ∧ r.2.1 = cfg ∧ r.2.2 = []) ∧
    (isRelayAdmin t = true → b ≠ "" → ¬ e < reg.now →
      r.1 = .status 204 ∧ r.2.2 = [b] ∧
      CfgOk name r.2.1 (Deny.step reg (.deny b e)) (TtlCode.step codes (.deleteByBooking b)).1) := by
  obtain ⟨h1, h2, h3⟩ := denyHandler_eq w cfg b e t
  rw [hcfg.now] at h1 h2 h3
  refine ⟨fun h => ?_, fun h hb => ?_, fun h hb he => ?_, fun h hb he => ?_⟩
  · simp [h1, h3, adminGuard, h]
  · subst hb
    simp [h1, h3, adminGuard, h]
  · simp [h1, h3, adminGuard, h, hb, he]
  · have g4 := (adminGuard_eq_204 t b e reg.now).2 ⟨h, hb, he⟩
    rw [h3, if_pos g4]
    refine ⟨h2 g4, rfl, ?_, ?_⟩
    · simp only [hcfg.reg]
      exact TieDeny.deny_tie w reg b e
    · simp only [hcfg.codes]
      exact TieTtlCode.deleteByBooking_tie hinj w codes hw hg b

theorem allowHandler_tie (name : Nat → String) (w : Go.World) (cfg : Gen.access.Config)
    (reg : Deny.Reg) (codes : TtlCode.Store) (hcfg : CfgOk name cfg reg codes) (b : String) (e : Int) (t : Bearer) :
    let r := Gen.access.allowHandler w cfg { Bid := b, Exp := e } (prin t)
    (isRelayAdmin t = false → r.1.code = 401 ∧ r.2 = cfg) ∧
    (isRelayAdmin t = true → b = "" → r.1.code = 400 ∧ r.2 = cfg) ∧
    (isRelayAdmin t = true → b ≠ "" → e < reg.now → r.1.code = 400 ∧ r.2 = cfg) ∧
    (isRelayAdmin t = true → b ≠ "" → ¬ e < reg.now →
      r.1 = .status 204 ∧ CfgOk name r.2 (Deny.step reg (.allow b e)) codes) := by
  obtain ⟨h1, h2, h3⟩ := allowHandler_eq w cfg b e t
  rw [hcfg.now] at h1 h2 h3
  refine ⟨fun h => ?_, fun h hb => ?_, fun h hb he => ?_, fun h hb he => ?_⟩
  · simp [h1, h3, adminGuard, h]
  · subst hb
    simp [h1, h3, adminGuard, h]
  · simp [h1, h3, adminGuard, h, hb, he]
  · have g4 := (adminGuard_eq_204 t b e reg.now).2 ⟨h, hb, he⟩
    rw [h3, if_pos g4]
    refine ⟨h2 g4, ?_, hcfg.codes⟩
    simp only [hcfg.reg]
    exact TieDeny.allow_tie w reg b e

/-- the list endpoints: 401 without the admin scope, else exactly the ids on the list (in some order) -/
theorem listDeniedHandler_tie (name : Nat → String) (w : Go.World) (hw : w.OrdOk) (cfg : Gen.access.Config)
    (reg : Deny.Reg) (codes : TtlCode.Store) (hcfg : CfgOk name cfg reg codes) (t : Bearer) :
    let r := Gen.access.listDeniedHandler w cfg ⟨⟩ (prin t)
    (isRelayAdmin t = false → r.code = 401) ∧
    (isRelayAdmin t = true → ∃ l, r = .ids 200 l ∧ l.Perm (KV.keys reg.deny)) := by
  have hadm := isRelayAdmin_err_isNone w t
  refine ⟨?_, ?_⟩
  · intro h
    simp [Gen.access.listDeniedHandler, hadm, h, Go.Resp.code]
  · intro h
    simp only [Gen.access.listDeniedHandler, hadm, h, Bool.not_true, Bool.false_eq_true, if_false, hcfg.reg]
    exact ⟨_, rfl, TieDeny.getDenyList_tie w hw reg⟩

theorem listAllowedHandler_tie (name : Nat → String) (w : Go.World) (hw : w.OrdOk) (cfg : Gen.access.Config)
    (reg : Deny.Reg) (codes : TtlCode.Store) (hcfg : CfgOk name cfg reg codes) (t : Bearer) :
    let r := Gen.access.listAllowedHandler w cfg ⟨⟩ (prin t)
    (isRelayAdmin t = false → r.code = 401) ∧
    (isRelayAdmin t = true → ∃ l, r = .ids 200 l ∧ l.Perm (KV.keys reg.allow)) := by
  have hadm := isRelayAdmin_err_isNone w t
  refine ⟨?_, ?_⟩
  · intro h
    simp [Gen.access.listAllowedHandler, hadm, h, Go.Resp.code]
  · intro h
    simp only [Gen.access.listAllowedHandler, hadm, h, Bool.not_true, Bool.false_eq_true, if_false, hcfg.reg]
    exact ⟨_, rfl, TieDeny.getAllowList_tie w hw reg⟩

/-- the model's `denyReq` (after authentication and parameter binding) answers with the status the translated handler returns -/
theorem denyReq_status_as_translated (name : Nat → String) (hinj : Function.Injective name) (w : Go.World) (gcfg : Gen.access.Config)
    (cfg : Access.Config) (s : Access.St) (hcfg : CfgOk name gcfg s.reg s.codes) (hw : TieTtlCode.WorldOk name w s.codes)
    (hg : TieTtlCode.Good s.codes) (hnow : s.reg.now = s.now)
    (t : Bearer) (hv : headerValid cfg s.now t = true) (b es : String) (e : Int) (hb : b ≠ "") (hes : es ≠ "") (hp : parseInt64 es = some e) :
    (denyReq cfg s (.token t) (some b) (some es)).2.code = (Gen.access.denyHandler w gcfg { Bid := b, Exp := e } (prin t)).1.code := by
  rw [(denyHandler_eq w gcfg b e t).1, hcfg.now, hnow]
  simp only [denyReq, authenticate, hv, if_true, bindBidExp, hb, hes, or_self, if_false, hp, Option.map_some, adminGuard]
  by_cases ha : isRelayAdmin t = true <;> by_cases he : e < s.now <;> simp [ha, he, Resp.code]

/-! ## `sessionHandler` as translated today -/

/-- justifies the translator's use of `HasRequiredClaims(x) ⇒ x.ExpiresAt ≠ nil` (spec `nonNilWhenTrue`): proved of the
    translated function itself -/
theorem hasRequiredClaims_exp_nonNil (w : Go.World) (tok : Gen.permission.Token)
    (h : Gen.permission.HasRequiredClaims w tok = true) : tok.RegisteredClaims.ExpiresAt.isSome = true := by
  cases he : tok.RegisteredClaims.ExpiresAt with
  | some d => rfl
  | none => simp [Gen.permission.HasRequiredClaims, he] at h

/-- the connection token the handler mints for a granted request -/
def mintedToken (target : String) (b : Bearer) (id : String) : Gen.permission.Token :=
  { BookingID := b.bid, Topic := id, ConnectionType := b.pfx, Scopes := b.scopes,
    RegisteredClaims := { Audience := [target], ExpiresAt := some { unix := b.exp.getD 0 }, NotBefore := some { unix := b.nbf.getD 0 },
                          IssuedAt := some { unix := b.iat.getD 0 } } }

/-- … carries exactly what the model's `sessionGrant` puts into its `PTok` -/
theorem mintedToken_as_model (cfg : Access.Config) (s : Access.St) (b : Bearer) (id : String) :
    let pt := mintedToken cfg.target b id
    let m := (sessionGrant cfg s b id).1.ptoks.getLast?
    m = some { topic := pt.Topic, pfx := pt.ConnectionType, bid := pt.BookingID, scopes := pt.Scopes,
               iat := (pt.RegisteredClaims.IssuedAt.getD default).unix, nbf := (pt.RegisteredClaims.NotBefore.getD default).unix,
               exp := (pt.RegisteredClaims.ExpiresAt.getD default).unix, aud := pt.RegisteredClaims.Audience } := by
  simp [sessionGrant, mintedToken]

structure SessCfgOk (name : Nat → String) (gcfg : Gen.access.Config) (cfg : Access.Config) (reg : Deny.Reg) (codes : TtlCode.Store) : Prop where
  stores : CfgOk name gcfg reg codes
  nobid : gcfg.AllowNoBookingID = cfg.allowNoBid
  target : gcfg.Target = cfg.target

/-- the translated session handler's result `r` against the model's verdict `o` (`sessionRefusal`); `grant` is what it returns
    when nothing refuses -/
structure Agree (gcfg : Gen.access.Config) (grant r : Go.Resp × Gen.access.Config) (o : Option Nat) : Prop where
  refused : ∀ c, o = some c → r.1.code = c ∧ r.2 = gcfg
  granted : o = none → r = grant

/-- one guard `g'` of the handler against the guard `g` of `sessionRefusal` it stands for -/
theorem agree_guard {gcfg : Gen.access.Config} {grant r : Go.Resp × Gen.access.Config} {o : Option Nat} {g g' : Prop}
    {_ : Decidable g} {_ : Decidable g'} (hg : g' ↔ g) (resp : Go.Resp) (h : ¬ g → Agree gcfg grant r o) :
    Agree gcfg grant (if g' then (resp, gcfg) else r) (if g then some resp.code else o) := by
  by_cases hc : g
  · rw [if_pos hc, if_pos (hg.2 hc)]
    exact ⟨fun c hc' => ⟨Option.some.inj hc', rfl⟩, nofun⟩
  · rw [if_neg hc, if_neg (mt hg.1 hc)]
    exact h hc

theorem deref_unix (o : Option Int) : (Go.deref (o.map (fun e => ({ unix := e } : Go.NumericDate)))).unix = o.getD 0 := by
  cases o <;> rfl

/-- `sessionHandler` walks through the guards of `sessionRefusal` in the model's order (plus one the model does not need) -/
theorem sessionHandler_agrees (name : Nat → String) (w : Go.World) (gcfg : Gen.access.Config) (cfg : Access.Config) (s : Access.St)
    (h : SessCfgOk name gcfg cfg s.reg s.codes) (b : Bearer) (id : String) :
    Agree gcfg
      (.uri 200 (cfg.target ++ "/" ++ b.pfx ++ "/" ++ b.topic ++ "?code=" ++
          (Go.submitToken w gcfg.CodeStore (mintedToken cfg.target b id)).1),
        { gcfg with DenyStore := Gen.deny.Store.Allow w gcfg.DenyStore b.bid (b.exp.getD 0),
                    CodeStore := (Go.submitToken w gcfg.CodeStore (mintedToken cfg.target b id)).2 })
      (Gen.access.sessionHandler w gcfg { SessionID := id } (prin b)) (sessionRefusal cfg s b id) := by
  obtain ⟨⟨hreg, _⟩, hnobid, htarget⟩ := h
  unfold sessionRefusal Gen.access.sessionHandler
  dsimp only [prin]
  simp only [Bool.not_true, Bool.false_eq_true, if_false]
  refine agree_guard ?_ _ fun h1 => ?_
  · rw [hasRequiredClaims_tie]
  dsimp only [claimsOf]
  refine agree_guard ?_ _ fun _ => ?_
  · simp
  by_cases hid : id = ""
  · -- an empty session id cannot equal the topic, which the required claims make non-empty
    have ht : b.topic ≠ id := by
      rintro rfl
      simp [hasRequiredClaims, hid] at h1
    rw [if_pos (decide_eq_true hid), if_pos ht]
    exact ⟨fun c hc => ⟨Option.some.inj hc, rfl⟩, nofun⟩
  rw [if_neg (by simpa using hid)]
  -- from here on the instances inside `decide` still mention `prin b`, which `simp` does not see through
  refine agree_guard ?_ _ fun _ => ?_
  · rw [Bool.not_eq_true']
    exact decide_eq_false_iff_not
  refine agree_guard ?_ _ fun _ => ?_
  · rw [hnobid, Bool.and_eq_true]
    exact and_congr_left' decide_eq_true_iff
  refine agree_guard ?_ _ fun _ => ?_
  · rw [hreg]; rfl
  refine ⟨nofun, fun _ => ?_⟩
  simp only [deref_unix, htarget]
  rfl

/-- refusals: the translated handler answers with the model's refusal status and touches nothing -/
theorem sessionHandler_refusal (name : Nat → String) (w : Go.World) (gcfg : Gen.access.Config) (cfg : Access.Config) (s : Access.St)
    (h : SessCfgOk name gcfg cfg s.reg s.codes) (b : Bearer) (id : String) (c : Nat)
    (hr : sessionRefusal cfg s b id = some c) :
    let r := Gen.access.sessionHandler w gcfg { SessionID := id } (prin b)
    r.1.code = c ∧ r.2 = gcfg :=
  (sessionHandler_agrees name w gcfg cfg s h b id).refused c hr

/-- grant: the translated handler notes the booking on the allow list until the token's expiry, mints exactly the model's
    connection token, stores it under the next fresh code and answers 200 with the relay URI carrying that code -/
theorem sessionHandler_grant (name : Nat → String) (hinj : Function.Injective name) (w : Go.World) (gcfg : Gen.access.Config)
    (cfg : Access.Config) (s : Access.St) (h : SessCfgOk name gcfg cfg s.reg s.codes)
    (hw : TieTtlCode.WorldOk name w s.codes) (hg : TieTtlCode.Good s.codes) (b : Bearer) (id : String)
    (hr : sessionRefusal cfg s b id = none) :
    let r := Gen.access.sessionHandler w gcfg { SessionID := id } (prin b)
    let pt := mintedToken cfg.target b id
    r.1 = .uri 200 (cfg.target ++ "/" ++ b.pfx ++ "/" ++ b.topic ++ "?code=" ++ name s.codes.next) ∧
    SessCfgOk name r.2 cfg (Deny.step s.reg (.allow b.bid (b.exp.getD 0))) (TtlCode.step s.codes (.submit b.bid (Go.tokenId pt))).1 := by
  have hsub : Go.submitToken w gcfg.CodeStore (mintedToken cfg.target b id) =
      (name s.codes.next, TieTtlCode.toGen name (TtlCode.step s.codes (.submit b.bid (Go.tokenId (mintedToken cfg.target b id)))).1) := by
    rw [h.stores.codes]
    exact TieTtlCode.submit_tie hinj w s.codes hw hg b.bid (Go.tokenId (mintedToken cfg.target b id))
  rw [(sessionHandler_agrees name w gcfg cfg s h b id).granted hr, hsub]
  refine ⟨rfl, ⟨?_, rfl⟩, h.nobid, h.target⟩
  simp only [h.stores.reg]
  exact TieDeny.allow_tie w s.reg b.bid (b.exp.getD 0)

/-- C07's "takes effect", sequential part, of the handlers as translated today: run `denyHandler` (granted), then
    `sessionHandler` on the configuration it returns, for ANY bearer of that booking whose token is otherwise perfectly
    good: the answer is 400 and no code is minted (the stores are untouched) -/
theorem translated_deny_then_session_refused (name : Nat → String) (hinj : Function.Injective name) (w w' : Go.World)
    (gcfg : Gen.access.Config) (cfg : Access.Config) (s : Access.St) (h : SessCfgOk name gcfg cfg s.reg s.codes)
    (hw : TieTtlCode.WorldOk name w s.codes) (hg : TieTtlCode.Good s.codes)
    (admin : Bearer) (hadmin : isRelayAdmin admin = true) (b : String) (e : Int) (hb : b ≠ "") (he : ¬ e < s.reg.now)
    (t : Bearer) (id : String) (ht1 : hasRequiredClaims t = true) (ht2 : (t.iat.isNone || t.nbf.isNone) = false) (ht3 : t.topic = id)
    (ht4 : t.bid = b) :
    let afterDeny := (Gen.access.denyHandler w gcfg { Bid := b, Exp := e } (prin admin)).2.1
    let r := Gen.access.sessionHandler w' afterDeny { SessionID := id } (prin t)
    r.1.code = 400 ∧ r.2 = afterDeny := by
  obtain ⟨_, _, _, hgranted⟩ := denyHandler_tie name hinj w gcfg s.reg s.codes h.stores hw hg b e admin
  obtain ⟨_, _, hcfg'⟩ := hgranted hadmin hb he
  let s' : Access.St := { s with reg := Deny.step s.reg (.deny b e), codes := (TtlCode.step s.codes (.deleteByBooking b)).1 }
  have hs' : SessCfgOk name (Gen.access.denyHandler w gcfg { Bid := b, Exp := e } (prin admin)).2.1 cfg s'.reg s'.codes := by
    have hfr : (Gen.access.denyHandler w gcfg { Bid := b, Exp := e } (prin admin)).2.1.AllowNoBookingID = gcfg.AllowNoBookingID ∧
        (Gen.access.denyHandler w gcfg { Bid := b, Exp := e } (prin admin)).2.1.Target = gcfg.Target := by
      obtain ⟨_, _, hout⟩ := denyHandler_eq w gcfg b e admin
      rw [hout]
      split <;> exact ⟨rfl, rfl⟩
    exact ⟨hcfg', hfr.1.trans h.nobid, hfr.2.trans h.target⟩
  have hden : Deny.isDenied s'.reg t.bid = true := by rw [ht4]; exact KV.has_insert_self _ b e
  exact sessionHandler_refusal name w' _ cfg s' hs' t id 400 ((denied_refused cfg s' t id hden).2 ht1 ht2 ht3)

theorem coverage : Gen.access.untranslated = [] ∧
    Gen.access.translated = ["allowHandler", "claimsCheck", "denyHandler", "hasStatsScope", "isRelayAdmin", "listAllowedHandler", "listDeniedHandler",
      "sessionHandler"] ∧
    Gen.permission.untranslated = [] ∧ Gen.permission.translated = ["HasRequiredClaims", "NewToken", "Token.SetBookingID"] :=
  ⟨rfl, rfl, rfl, rfl⟩

end TieAccess
