import Relay.Lemmas.TopicMap
import Relay.Extracted.GenHub
import Relay.Lemmas.SendQueues

/-!
# Tie: the plain (lossy) pub/sub hub as TRANSLATED from `/repo/internal/hub`

`Gen.hub.Hub.Run_Register / Run_Unregister / Run_Broadcast` are the three cases of the `select` in `Hub.Run`, and there
are the same three for `Hub.RunWithStats` (the variant `internal/vw` runs, through `agg`). This hub is LOSSY: a
subscriber whose queue has no room simply misses the message; nobody is evicted; unregistering closes nothing. The
theorems are about THAT code, for every world (`w.ordP`: any iteration order of the client map; `w.ready`: any choice
of which bounded send queues have room): first case by case, then (`Sys`, `sysRun`) composed with bounded queues over
whole histories, where what each client is sent is a SUBLIST of the inbound messages — the hub may drop, it never
reorders or duplicates — and exactly those on its topic from others when there is always room.
-/

namespace TiePlainHub
open Gen.hub
open TieHub (PNoDup)

/-- the three `select` cases of `Hub.RunWithStats` are, as functions, those of `Hub.Run`: the statistics statements
    (skipped by the translator as "not data") are the only difference in the Go source -/
theorem stats_variant_same_data :
    Hub.RunWithStats_Register = Hub.Run_Register ∧
    Hub.RunWithStats_Unregister = Hub.Run_Unregister ∧
    Hub.RunWithStats_Broadcast = Hub.Run_Broadcast :=
  ⟨rfl, rfl, rfl⟩

/-- the `closed` channel handed to the case bodies is not looked at -/
theorem closed_irrelevant (w : Go.World) (h : Hub) (cl cl' : Go.Chan) (c : Client) (m : Message) :
    Hub.Run_Register w h cl c = Hub.Run_Register w h cl' c ∧
    Hub.Run_Unregister w h cl c = Hub.Run_Unregister w h cl' c ∧
    Hub.Run_Broadcast w h cl m = Hub.Run_Broadcast w h cl' m :=
  ⟨rfl, rfl, rfl⟩

def filed (h : Hub) (t : String) (c : Client) : Prop := Go.PMap.has (Go.Map.get h.Clients t) c = true

instance (h : Hub) (t : String) (c : Client) : Decidable (filed h t c) := by unfold filed; infer_instance

/-- the invariant `Hub.Run` maintains -/
structure WF (h : Hub) : Prop where
  inner : ∀ t, PNoDup (Go.Map.get h.Clients t)
  own : ∀ t c, filed h t c → c.Topic = t

theorem wf_iff (h : Hub) : WF h ↔ TopicMap.Wf Client.Topic (Go.Map.get h.Clients) :=
  ⟨fun x => ⟨x.inner, x.own⟩, fun x => ⟨x.inner, x.own⟩⟩

theorem has_topic_of_filed (h : Hub) (t : String) (c : Client) (hf : filed h t c) : Go.Map.has h.Clients t = true := by
  cases hh : Go.Map.has h.Clients t with
  | true => rfl
  | false =>
    unfold filed at hf
    rw [TieHub.get_of_not_has _ t hh] at hf
    cases hf

theorem register_nf (w : Go.World) (h : Hub) (cl : Go.Chan) (c : Client) :
    Hub.Run_Register w h cl c = { h with Clients := TopicMap.register h.Clients c.Topic c } := by
  unfold Hub.Run_Register TopicMap.register
  cases Go.Map.has h.Clients c.Topic <;> rfl

theorem register_get (w : Go.World) (h : Hub) (cl : Go.Chan) (c : Client) :
    Go.Map.get (Hub.Run_Register w h cl c).Clients = TopicMap.file (Go.Map.get h.Clients) c.Topic c := by
  rw [register_nf]; exact TopicMap.get_register _ _ _

theorem register_filed (w : Go.World) (h : Hub) (cl : Go.Chan) (c : Client) (t : String) (c' : Client) :
    filed (Hub.Run_Register w h cl c) t c' ↔ filed h t c' ∨ (t = c.Topic ∧ c' = c) := by
  unfold filed; rw [register_get]; exact TopicMap.filedIn_file _ _ _ _ _

theorem register_wf (w : Go.World) (h : Hub) (cl : Go.Chan) (c : Client) (hwf : WF h) : WF (Hub.Run_Register w h cl c) :=
  (wf_iff _).2 (register_get w h cl c ▸ ((wf_iff h).1 hwf).file c)

theorem register_rest (w : Go.World) (h : Hub) (cl : Go.Chan) (c : Client) :
    (Hub.Run_Register w h cl c).Broadcast = h.Broadcast ∧ (Hub.Run_Register w h cl c).Register = h.Register ∧
    (Hub.Run_Register w h cl c).Unregister = h.Unregister := by
  rw [register_nf]; exact ⟨rfl, rfl, rfl⟩

theorem unregister_get (w : Go.World) (h : Hub) (cl : Go.Chan) (c : Client) :
    Go.Map.get (Hub.Run_Unregister w h cl c).Clients = TopicMap.unfile (Go.Map.get h.Clients) c.Topic c :=
  -- `Run_Unregister` is `{ h with Clients := TopicMap.unregister h.Clients c.Topic c }` as it stands
  TopicMap.get_unregister _ _ _

theorem unregister_filed (w : Go.World) (h : Hub) (cl : Go.Chan) (c : Client) (t : String) (c' : Client) :
    filed (Hub.Run_Unregister w h cl c) t c' ↔ filed h t c' ∧ ¬ (t = c.Topic ∧ c' = c) := by
  unfold filed; rw [unregister_get]; exact TopicMap.filedIn_unfile _ _ _ _ _

theorem unregister_wf (w : Go.World) (h : Hub) (cl : Go.Chan) (c : Client) (hwf : WF h) :
    WF (Hub.Run_Unregister w h cl c) :=
  (wf_iff _).2 (unregister_get w h cl c ▸ ((wf_iff h).1 hwf).unfile c.Topic c)

theorem unregister_rest (w : Go.World) (h : Hub) (cl : Go.Chan) (c : Client) :
    (Hub.Run_Unregister w h cl c).Broadcast = h.Broadcast ∧ (Hub.Run_Unregister w h cl c).Register = h.Register ∧
    (Hub.Run_Unregister w h cl c).Unregister = h.Unregister :=
  ⟨rfl, rfl, rfl⟩

/-- a client's topic is part of the client -/
theorem own_topic_and_eq (c' c : Client) : (c.Topic = c'.Topic ∧ c = c') ↔ c' = c :=
  ⟨fun h => h.2.symm, fun e => e ▸ ⟨rfl, rfl⟩⟩

/-- is `c` filed (under its own topic) after `c'` registered? -/
theorem register_filed_own (w : Go.World) (h : Hub) (cl : Go.Chan) (c' c : Client) :
    filed (Hub.Run_Register w h cl c') c.Topic c ↔ filed h c.Topic c ∨ c' = c := by
  rw [register_filed, own_topic_and_eq]

/-- … after `c'` unregistered? -/
theorem unregister_filed_own (w : Go.World) (h : Hub) (cl : Go.Chan) (c' c : Client) :
    filed (Hub.Run_Unregister w h cl c') c.Topic c ↔ filed h c.Topic c ∧ ¬ c' = c := by
  rw [unregister_filed, own_topic_and_eq]

/-- **a second unregister changes nothing observable**: the same clients are filed -/
theorem unregister_idempotent (w w' : Go.World) (h : Hub) (cl cl' : Go.Chan) (c : Client) (t : String) (c' : Client) :
    filed (Hub.Run_Unregister w' (Hub.Run_Unregister w h cl c) cl' c) t c' ↔ filed (Hub.Run_Unregister w h cl c) t c' := by
  rw [unregister_filed w', unregister_filed w]
  exact and_iff_left_of_imp And.right

/-- … and not just the same membership: every inner map is literally the same -/
theorem unregister_idempotent_get (w w' : Go.World) (h : Hub) (cl cl' : Go.Chan) (c : Client) (t : String) :
    Go.Map.get (Hub.Run_Unregister w' (Hub.Run_Unregister w h cl c) cl' c).Clients t
      = Go.Map.get (Hub.Run_Unregister w h cl c).Clients t := by
  rw [unregister_get w', TopicMap.unfile_of_not_filed _ _ _ (fun hf => ((unregister_filed w h cl c c.Topic c).1 hf).2 ⟨rfl, rfl⟩)]

theorem unregister_of_not_filed (w : Go.World) (h : Hub) (cl : Go.Chan) (c : Client) (hnf : ¬ filed h c.Topic c) (t : String) :
    Go.Map.get (Hub.Run_Unregister w h cl c).Clients t = Go.Map.get h.Clients t := by
  rw [unregister_get, TopicMap.unfile_of_not_filed _ _ _ hnf]

/-- the members a broadcast of `m` looks at, in the order the world picks -/
abbrev scan (w : Go.World) (h : Hub) (m : Message) : List (Client × Bool) :=
  w.ordP (Go.Map.get h.Clients m.Sender.Topic)

/-- the scanned members the message is handed to: other name, queue has room -/
abbrev sentTo (w : Go.World) (h : Hub) (m : Message) : List Client :=
  ((scan w h m).filter (fun kv => !decide (kv.1.Name = m.Sender.Name) && w.ready kv.1.Send)).map (·.1)

/-- the scanned members that miss the message: other name, queue full -/
abbrev missed (w : Go.World) (h : Hub) (m : Message) : List Client :=
  ((scan w h m).filter (fun kv => !decide (kv.1.Name = m.Sender.Name) && !w.ready kv.1.Send)).map (·.1)

theorem broadcast_out_sentTo (w : Go.World) (h : Hub) (cl : Go.Chan) (m : Message) :
    Hub.Run_Broadcast w h cl m = (sentTo w h m).map (fun c => (c.Send, m)) :=
  -- `Run_Broadcast` is that loop as it stands, started with the empty log
  (TopicMap.fanout_out (scan w h m) (fun c => !decide (c.Name = m.Sender.Name)) (fun c => w.ready c.Send)
    (fun c => (c.Send, m)) []).trans (List.nil_append _)

/-- **sends, exactly**: the log is the scanned members with another name whose queue has room, in scan order, each
    given `m` -/
theorem broadcast_out (w : Go.World) (h : Hub) (cl : Go.Chan) (m : Message) :
    Hub.Run_Broadcast w h cl m
      = ((w.ordP (Go.Map.get h.Clients m.Sender.Topic)).filter
            (fun kv => !decide (kv.1.Name = m.Sender.Name) && w.ready kv.1.Send)).map (fun kv => (kv.1.Send, m)) := by
  rw [broadcast_out_sentTo, List.map_map]; rfl

theorem mem_sentTo (w : Go.World) (hw : w.OrdPOk) (h : Hub) (m : Message) (c : Client) :
    c ∈ sentTo w h m ↔ filed h m.Sender.Topic c ∧ c.Name ≠ m.Sender.Name ∧ w.ready c.Send = true := by
  refine (TopicMap.mem_picked w hw (Go.Map.get h.Clients m.Sender.Topic) (fun c => !decide (c.Name = m.Sender.Name) && w.ready c.Send) c).trans ?_
  simp only [filed, Bool.and_eq_true, Bool.not_eq_true', decide_eq_false_iff_not]

theorem mem_missed (w : Go.World) (hw : w.OrdPOk) (h : Hub) (m : Message) (c : Client) :
    c ∈ missed w h m ↔ filed h m.Sender.Topic c ∧ c.Name ≠ m.Sender.Name ∧ w.ready c.Send = false := by
  refine (TopicMap.mem_picked w hw (Go.Map.get h.Clients m.Sender.Topic) (fun c => !decide (c.Name = m.Sender.Name) && !w.ready c.Send) c).trans ?_
  simp only [filed, Bool.and_eq_true, Bool.not_eq_true', decide_eq_false_iff_not]

/-- **topic isolation, no echo, payload unchanged**: whatever is sent is `m` itself, to a member filed under the
    sender's topic, whose name is not the sender's, and whose queue had room -/
theorem broadcast_only_same_topic_not_self (w : Go.World) (hw : w.OrdPOk) (h : Hub) (cl : Go.Chan) (m : Message)
    (ch : Go.Chan) (m' : Message) (hmem : (ch, m') ∈ Hub.Run_Broadcast w h cl m) :
    m' = m ∧ ∃ c, filed h m.Sender.Topic c ∧ c.Name ≠ m.Sender.Name ∧ w.ready c.Send = true ∧ ch = c.Send := by
  rw [broadcast_out_sentTo] at hmem
  obtain ⟨c, hc, e⟩ := List.mem_map.1 hmem
  injection e with e1 e2
  obtain ⟨h1, h2, h3⟩ := (mem_sentTo w hw h m c).1 hc
  exact ⟨e2.symm, c, h1, h2, h3, e1.symm⟩

/-- **nobody that is ready is skipped** -/
theorem broadcast_reaches_every_ready_target (w : Go.World) (hw : w.OrdPOk) (h : Hub) (cl : Go.Chan) (m : Message)
    (c : Client) (hf : filed h m.Sender.Topic c) (hn : c.Name ≠ m.Sender.Name) (hr : w.ready c.Send = true) :
    (c.Send, m) ∈ Hub.Run_Broadcast w h cl m := by
  rw [broadcast_out_sentTo]
  exact List.mem_map.2 ⟨c, (mem_sentTo w hw h m c).2 ⟨hf, hn, hr⟩, rfl⟩

theorem sentTo_nodup (w : Go.World) (hw : w.OrdPOk) (h : Hub) (hwf : WF h) (m : Message) : (sentTo w h m).Nodup :=
  TopicMap.picked_nodup w hw _ (hwf.inner _) (fun c => !decide (c.Name = m.Sender.Name) && w.ready c.Send)

/-- **at most once**: the clients sent to (in order) are pairwise different, and the log is exactly one
    `(c.Send, m)` for each of them -/
theorem broadcast_at_most_once (w : Go.World) (hw : w.OrdPOk) (h : Hub) (hwf : WF h) (cl : Go.Chan) (m : Message) :
    (((w.ordP (Go.Map.get h.Clients m.Sender.Topic)).filter
        (fun kv => !decide (kv.1.Name = m.Sender.Name) && w.ready kv.1.Send)).map (·.1)).Nodup
    ∧ Hub.Run_Broadcast w h cl m
        = (((w.ordP (Go.Map.get h.Clients m.Sender.Topic)).filter
            (fun kv => !decide (kv.1.Name = m.Sender.Name) && w.ready kv.1.Send)).map (·.1)).map (fun c => (c.Send, m)) :=
  ⟨sentTo_nodup w hw h hwf m, broadcast_out_sentTo w h cl m⟩

theorem broadcast_count_le_one (w : Go.World) (hw : w.OrdPOk) (h : Hub) (hwf : WF h) (m : Message) (c : Client) :
    (sentTo w h m).count c ≤ 1 :=
  List.nodup_iff_count.1 (sentTo_nodup w hw h hwf m) c

inductive Ev where
  | register (c : Client)
  | unregister (c : Client)
  | broadcast (m : Message)

/-- what `Hub.Run` does with its hub in one iteration: a broadcast leaves the hub as it is (the translated
    `Run_Broadcast` returns the send log only, there is no hub to return) -/
def loopStep (w : Go.World) (cl : Go.Chan) (h : Hub) : Ev → Hub
  | .register c => Hub.Run_Register w h cl c
  | .unregister c => Hub.Run_Unregister w h cl c
  | .broadcast _ => h

/-- **the hub is lossy, and it evicts nobody**: a member of the sender's topic, not the sender, whose queue is full
    gets nothing from this broadcast (nor does anybody sharing its channel) — and it STAYS filed: the broadcast
    case does not change the hub at all. Conversely a member that gets nothing was not ready: exactly the not-ready
    are dropped. -/
theorem broadcast_drops_exactly_the_not_ready (w : Go.World) (hw : w.OrdPOk) (h : Hub) (cl : Go.Chan) (m : Message)
    (c : Client) (hf : filed h m.Sender.Topic c) (hn : c.Name ≠ m.Sender.Name) :
    ((c.Send, m) ∉ Hub.Run_Broadcast w h cl m ↔ w.ready c.Send = false)
    ∧ (w.ready c.Send = false → ∀ m', (c.Send, m') ∉ Hub.Run_Broadcast w h cl m)
    ∧ (c ∈ missed w h m ↔ w.ready c.Send = false)
    ∧ filed (loopStep w cl h (.broadcast m)) m.Sender.Topic c := by
  -- whoever is sent something on `c.Send` has that channel, and it was ready
  have hnone : w.ready c.Send = false → ∀ m', (c.Send, m') ∉ Hub.Run_Broadcast w h cl m := by
    intro hr m' hmem
    obtain ⟨_, c', _, _, hr', e⟩ := broadcast_only_same_topic_not_self w hw h cl m c.Send m' hmem
    rw [e, hr'] at hr
    cases hr
  refine ⟨⟨?_, fun hr => hnone hr m⟩, hnone, ?_, hf⟩
  · intro hnot
    cases hr : w.ready c.Send with
    | false => rfl
    | true => exact absurd (broadcast_reaches_every_ready_target w hw h cl m c hf hn hr) hnot
  · rw [mem_missed w hw]
    exact ⟨fun x => x.2.2, fun x => ⟨hf, hn, x⟩⟩

/-- **no eviction**: whoever was filed before a broadcast is filed after it, and vice versa -/
theorem broadcast_no_eviction (w : Go.World) (cl : Go.Chan) (h : Hub) (m : Message) (t : String) (c : Client) :
    filed (loopStep w cl h (.broadcast m)) t c ↔ filed h t c := Iff.rfl

theorem sentTo_missed_disjoint (w : Go.World) (h : Hub) (m : Message) (c : Client) (h1 : c ∈ sentTo w h m)
    (h2 : c ∈ missed w h m) : False := by
  exact TopicMap.picked_disjoint (scan w h m) (fun c => !decide (c.Name = m.Sender.Name)) (fun c => w.ready c.Send) c h1 h2

theorem empty_wf : WF (default : Hub) :=
  ⟨fun _ => trivial, fun _ _ hf => by cases hf⟩

/-- a history: the i-th iteration runs in world `wf i` -/
def loopRun (wf : Nat → Go.World) (cl : Go.Chan) : Nat → Hub → List Ev → Hub
  | _, h, [] => h
  | i, h, e :: es => loopRun wf cl (i + 1) (loopStep (wf i) cl h e) es

theorem loopRun_wf (wf : Nat → Go.World) (cl : Go.Chan) (es : List Ev) (i : Nat) (h : Hub) (hwf : WF h) :
    WF (loopRun wf cl i h es) := by
  induction es generalizing i h with
  | nil => exact hwf
  | cons e es ih =>
    refine ih _ _ ?_
    cases e with
    | register c => exact register_wf (wf i) h cl c hwf
    | unregister c => exact unregister_wf (wf i) h cl c hwf
    | broadcast m => exact hwf

/-- the invariant holds from the empty hub on, along every history of the event loop -/
theorem reachable_wf (wf : Nat → Go.World) (cl : Go.Chan) (es : List Ev) : WF (loopRun wf cl 0 default es) :=
  loopRun_wf wf cl es 0 default empty_wf

/-! ## end to end: the translated hub composed with bounded queues, over whole histories

Here the world is not arbitrary: each client's `Send` is a bounded buffered Go channel, the hub's non-blocking send
goes through exactly when the buffer has room, a reader takes messages off it. The case bodies that run are those of
`Hub.RunWithStats`. -/

structure Sys where
  h : Hub
  /-- contents of each send queue, oldest first -/
  q : Go.Chan → List Message
  /-- capacity of each send queue (`make(chan Message, cap)`) -/
  cap : Go.Chan → Nat
  /-- ghost: every successful send the hub performed, in order -/
  sendLog : List (Go.Chan × Message)
  /-- ghost: every client ever registered, in order -/
  registered : List Client

/-- what happens to the system: the three channels of `Hub.Run`, and a reader taking messages off its queue -/
inductive SEv where
  | register (c : Client)
  | unregister (c : Client)
  /-- the hub takes `m` from its broadcast channel -/
  | inbound (m : Message)
  /-- the reader behind `ch` takes `k+1` messages off the queue -/
  | drain (ch : Go.Chan) (k : Nat)

def init (cap : Go.Chan → Nat) : Sys :=
  { h := default, q := fun _ => [], cap := cap, sendLog := [], registered := [] }

/-- the world of a step: the iteration order is the one of `o` (arbitrary); a non-blocking send goes through exactly
    when the buffer has room -/
def worldOf (o : Go.World) (s : Sys) : Go.World :=
  { o with ready := fun ch => decide ((s.q ch).length < s.cap ch) }

theorem worldOf_ok (o : Go.World) (s : Sys) (ho : o.OrdPOk) : (worldOf o s).OrdPOk := ho

@[simp] theorem worldOf_ready (o : Go.World) (s : Sys) (ch : Go.Chan) :
    (worldOf o s).ready ch = decide ((s.q ch).length < s.cap ch) := rfl

/-- `ch <- m` that went through. `push`, `enqueue` and `perChan` are `SendQ`'s at `Message`, by unfolding, so its
    lemmas apply as they stand -/
def push (q : Go.Chan → List Message) (ch : Go.Chan) (m : Message) : Go.Chan → List Message :=
  fun ch' => if ch' = ch then q ch' ++ [m] else q ch'

def enqueue (q : Go.Chan → List Message) (out : List (Go.Chan × Message)) : Go.Chan → List Message :=
  out.foldl (fun q p => push q p.1 p.2) q

/-- `register`, `unregister`, `inbound` run the TRANSLATED case bodies of `Hub.RunWithStats` (the `closed` argument
    is not looked at: `closed_irrelevant`). A broadcast leaves the hub as it is. -/
def sysStep (o : Go.World) (s : Sys) : SEv → Sys
  | .register c =>
    { s with h := Hub.RunWithStats_Register (worldOf o s) s.h 0 c, registered := s.registered ++ [c] }
  | .unregister c =>
    { s with h := Hub.RunWithStats_Unregister (worldOf o s) s.h 0 c }
  | .inbound m =>
    let out := Hub.RunWithStats_Broadcast (worldOf o s) s.h 0 m
    { s with q := enqueue s.q out, sendLog := s.sendLog ++ out }
  | .drain ch k =>
    { s with q := fun ch' => if ch' = ch then (s.q ch').drop (k + 1) else s.q ch' }

/-- what the hub sends in one step -/
def stepOut (o : Go.World) (s : Sys) : SEv → List (Go.Chan × Message)
  | .inbound m => Hub.Run_Broadcast (worldOf o s) s.h 0 m
  | _ => []

/-- a history: the i-th event runs with the iteration orders of `ws i` -/
def sysRun (ws : Nat → Go.World) : Nat → Sys → List SEv → Sys
  | _, s, [] => s
  | i, s, e :: es => sysRun ws (i + 1) (sysStep (ws i) s e) es

/-- the per-step out logs of a history -/
def outs (ws : Nat → Go.World) : Nat → Sys → List SEv → List (List (Go.Chan × Message))
  | _, _, [] => []
  | i, s, e :: es => stepOut (ws i) s e :: outs ws (i + 1) (sysStep (ws i) s e) es

def inbounds (es : List SEv) : List Message := es.filterMap (fun | .inbound m => some m | _ => none)

/-- what was sent on `ch`, in order -/
def perChan (ch : Go.Chan) (l : List (Go.Chan × Message)) : List Message := (l.filter (fun p => p.1 == ch)).map (·.2)

/-- the step function in terms of the plain case bodies (`stats_variant_same_data`) -/
theorem sysStep_register (o : Go.World) (s : Sys) (c : Client) :
    sysStep o s (.register c) = { s with h := Hub.Run_Register (worldOf o s) s.h 0 c, registered := s.registered ++ [c] } := rfl
theorem sysStep_unregister (o : Go.World) (s : Sys) (c : Client) :
    sysStep o s (.unregister c) = { s with h := Hub.Run_Unregister (worldOf o s) s.h 0 c } := rfl
theorem sysStep_inbound (o : Go.World) (s : Sys) (m : Message) :
    sysStep o s (.inbound m) = { s with q := enqueue s.q (Hub.Run_Broadcast (worldOf o s) s.h 0 m),
                                        sendLog := s.sendLog ++ Hub.Run_Broadcast (worldOf o s) s.h 0 m } := rfl

/-- `c` is a new client object with a new `Send` channel -/
def freshFor (prev : List Client) (c : Client) : Prop :=
  c ∉ prev ∧ ∀ c' ∈ prev, c'.Send ≠ c.Send ∧ c'.addr__ ≠ c.addr__

instance (prev : List Client) (c : Client) : Decidable (freshFor prev c) := by
  unfold freshFor; infer_instance

/-- `Disc`, given the clients registered so far -/
def DiscFrom : List Client → List SEv → Prop
  | _, [] => True
  | prev, .register c :: es => freshFor prev c ∧ DiscFrom (prev ++ [c]) es
  | prev, .unregister _ :: es => DiscFrom prev es
  | prev, .inbound _ :: es => DiscFrom prev es
  | prev, .drain _ _ :: es => DiscFrom prev es

/-- **ASSUMPTION about the caller** (`internal/rwc` and `internal/vw` each register a `&hub.Client{…}` they have just
    made, with a `Send` they have just made, and so does `internal/agg` for its sub-clients; a client that `agg`
    hands on as it is (agg.go:87) is one its own caller made): in the history, every `register c` registers a client
    that was not registered before, whose `Send` channel and whose address differ from those of every client
    registered before. Nothing is assumed about `unregister` (any client, filed or not, registered or not,
    repeatedly), `inbound` (any sender) or `drain`. -/
def Disc (es : List SEv) : Prop := DiscFrom [] es

instance DiscFrom.dec : (prev : List Client) → (es : List SEv) → Decidable (DiscFrom prev es)
  | _, [] => isTrue trivial
  | prev, .register c :: es =>
    have := DiscFrom.dec (prev ++ [c]) es
    (inferInstance : Decidable (freshFor prev c ∧ DiscFrom (prev ++ [c]) es))
  | prev, .unregister _ :: es => DiscFrom.dec prev es
  | prev, .inbound _ :: es => DiscFrom.dec prev es
  | prev, .drain _ _ :: es => DiscFrom.dec prev es

instance (es : List SEv) : Decidable (Disc es) := DiscFrom.dec [] es

/-- the discipline for one step from `s` -/
def StepOk (s : Sys) : SEv → Prop
  | .register c => freshFor s.registered c
  | _ => True

theorem discFrom_append (prev : List Client) (pre post : List SEv) (h : DiscFrom prev (pre ++ post)) :
    DiscFrom prev pre := by
  induction pre generalizing prev with
  | nil => trivial
  | cons e pre ih =>
    cases e with
    | register c => exact ⟨h.1, ih _ h.2⟩
    | _ => exact ih _ h

theorem disc_prefix (pre post : List SEv) (h : Disc (pre ++ post)) : Disc pre := discFrom_append [] pre post h

theorem discFrom_cons (s : Sys) (o : Go.World) (e : SEv) (es : List SEv) (h : DiscFrom s.registered (e :: es)) :
    StepOk s e ∧ DiscFrom (sysStep o s e).registered es := by
  cases e with
  | register c => exact h
  | _ => exact ⟨trivial, h⟩

@[simp] theorem perChan_nil (ch : Go.Chan) : perChan ch [] = [] := rfl

theorem perChan_append (ch : Go.Chan) (l l' : List (Go.Chan × Message)) :
    perChan ch (l ++ l') = perChan ch l ++ perChan ch l' :=
  SendQ.perChan_append ch l l'

/-- the part of the invariant that relates the hub and the clients registered so far -/
structure Core (h : Hub) (reg : List Client) : Prop where
  wf : WF h
  filed_reg : ∀ t c, filed h t c → c ∈ reg
  reg_nodup : reg.Nodup
  send_inj : ∀ a ∈ reg, ∀ b ∈ reg, a.Send = b.Send → a = b
  addr_inj : ∀ a ∈ reg, ∀ b ∈ reg, a.addr__ = b.addr__ → a = b

theorem core_register (w : Go.World) {h : Hub} {reg : List Client} (hc : Core h reg)
    (c : Client) (hfresh : freshFor reg c) : Core (Hub.Run_Register w h 0 c) (reg ++ [c]) where
  wf := register_wf w h 0 c hc.wf
  filed_reg := by
    intro t c' hf
    rcases (register_filed w h 0 c t c').1 hf with e | ⟨_, e⟩
    · exact List.mem_append_left _ (hc.filed_reg t c' e)
    · exact e ▸ List.mem_concat_self
  reg_nodup := SendQ.nodup_snoc reg c hc.reg_nodup hfresh.1
  send_inj := SendQ.injOn_snoc (·.Send) reg c hc.send_inj (fun a ha => (hfresh.2 a ha).1)
  addr_inj := SendQ.injOn_snoc (·.addr__) reg c hc.addr_inj (fun a ha => (hfresh.2 a ha).2)

theorem broadcast_out_chans_nodup (w : Go.World) (hw : w.OrdPOk) (h : Hub) (reg : List Client)
    (hc : Core h reg) (m : Message) : ((Hub.Run_Broadcast w h 0 m).map (·.1)).Nodup := by
  rw [broadcast_out_sentTo, List.map_map]
  exact SendQ.nodup_map_of_injOn (·.Send) (sentTo_nodup w hw h hc.wf m)
    (fun a ha => hc.filed_reg _ a ((mem_sentTo w hw h m a).1 ha).1) hc.send_inj

theorem broadcast_out_spec (w : Go.World) (hw : w.OrdPOk) {h : Hub} {reg : List Client}
    (hc : Core h reg) (m : Message) (ch : Go.Chan) (m' : Message) (hmem : (ch, m') ∈ Hub.Run_Broadcast w h 0 m) :
    m' = m ∧ w.ready ch = true ∧
      ∃ c, filed h c.Topic c ∧ c ∈ reg ∧ c.Send = ch ∧ c.Topic = m.Sender.Topic ∧ c.Name ≠ m.Sender.Name := by
  obtain ⟨e, c, hf, hn, hr, ech⟩ := broadcast_only_same_topic_not_self w hw h 0 m ch m' hmem
  subst ech
  have ht := hc.wf.own _ c hf
  exact ⟨e, hr, c, ht ▸ hf, hc.filed_reg _ c hf, rfl, ht, hn⟩

structure Inv (s : Sys) : Prop where
  core : Core s.h s.registered
  bounded : ∀ ch, (s.q ch).length ≤ s.cap ch
  sends : ∀ ch m, (ch, m) ∈ s.sendLog →
    ∃ c ∈ s.registered, c.Send = ch ∧ c.Topic = m.Sender.Topic ∧ c.Name ≠ m.Sender.Name

theorem inv_init (cap : Go.Chan → Nat) : Inv (init cap) where
  core := {
    wf := empty_wf
    filed_reg := fun _ _ hf => by cases hf
    reg_nodup := List.nodup_nil
    send_inj := fun _ ha => by cases ha
    addr_inj := fun _ ha => by cases ha }
  bounded := fun _ => Nat.zero_le _
  sends := fun _ _ hm => by cases hm

theorem step_inv (o : Go.World) (ho : o.OrdPOk) (s : Sys) (e : SEv) (hi : Inv s) (hok : StepOk s e) :
    Inv (sysStep o s e) := by
  cases e with
  | register c =>
    exact { hi with
      core := core_register (worldOf o s) hi.core c hok
      sends := fun ch m hm => (hi.sends ch m hm).imp fun _ h => ⟨List.mem_append_left _ h.1, h.2⟩ }
  | unregister c =>
    -- ANY `c`: whoever is filed afterwards was filed before
    exact { hi with core := { hi.core with
      wf := unregister_wf (worldOf o s) s.h 0 c hi.core.wf
      filed_reg := fun t c' hf => hi.core.filed_reg t c' ((unregister_filed (worldOf o s) s.h 0 c t c').1 hf).1 } }
  | inbound m =>
    have hw := worldOf_ok o s ho
    have hspec := broadcast_out_spec (worldOf o s) hw hi.core m
    exact {
      core := hi.core
      bounded := SendQ.enqueue_bounded s.q s.cap _ hi.bounded
        (broadcast_out_chans_nodup (worldOf o s) hw s.h s.registered hi.core m)
        (fun p hp => of_decide_eq_true (hspec p.1 p.2 hp).2.1)
      sends := fun ch m' hm => (List.mem_append.1 hm).elim (hi.sends ch m') fun hm => by
        obtain ⟨rfl, _, c, _, hc⟩ := hspec ch m' hm
        exact ⟨c, hc⟩ }
  | drain ch k =>
    exact { hi with bounded := fun ch' => Nat.le_trans (SendQ.drain_length_le s.q ch (k + 1) ch') (hi.bounded ch') }

theorem run_inv (ws : Nat → Go.World) (hws : ∀ i, (ws i).OrdPOk) (es : List SEv) (i : Nat) (s : Sys) (hi : Inv s)
    (hd : DiscFrom s.registered es) : Inv (sysRun ws i s es) := by
  induction es generalizing i s with
  | nil => exact hi
  | cons e es ih =>
    obtain ⟨h1, h2⟩ := discFrom_cons s (ws i) e es hd
    exact ih (i + 1) _ (step_inv (ws i) (hws i) s e hi h1) h2

theorem e2e_inv (ws : Nat → Go.World) (hws : ∀ i, (ws i).OrdPOk) (cap : Go.Chan → Nat) (es : List SEv) (hd : Disc es) :
    Inv (sysRun ws 0 (init cap) es) :=
  run_inv ws hws es 0 (init cap) (inv_init cap) hd

theorem sysRun_append (ws : Nat → Go.World) (pre post : List SEv) (i : Nat) (s : Sys) :
    sysRun ws i s (pre ++ post) = sysRun ws (i + pre.length) (sysRun ws i s pre) post := by
  induction pre generalizing i s with
  | nil => rfl
  | cons e pre ih =>
    rw [List.length_cons, ← Nat.add_assoc, Nat.add_right_comm]
    exact ih (i + 1) _

theorem sysRun_cap (ws : Nat → Go.World) (es : List SEv) (i : Nat) (s : Sys) : (sysRun ws i s es).cap = s.cap := by
  induction es generalizing i s with
  | nil => rfl
  | cons e es ih => exact (ih (i + 1) _).trans (by cases e <;> rfl)

theorem registered_prefix (ws : Nat → Go.World) (es : List SEv) (i : Nat) (s : Sys) :
    s.registered <+: (sysRun ws i s es).registered := by
  induction es generalizing i s with
  | nil => exact List.prefix_refl _
  | cons e es ih =>
    refine List.IsPrefix.trans ?_ (ih (i + 1) _)
    cases e with
    | register c => exact List.prefix_append _ _
    | _ => exact List.prefix_refl _

theorem sysStep_sendLog (o : Go.World) (s : Sys) (e : SEv) : (sysStep o s e).sendLog = s.sendLog ++ stepOut o s e := by
  cases e with
  | inbound m => rfl
  | _ => exact (List.append_nil _).symm

theorem sendLog_eq_outs (ws : Nat → Go.World) (es : List SEv) (i : Nat) (s : Sys) :
    (sysRun ws i s es).sendLog = s.sendLog ++ (outs ws i s es).flatten := by
  induction es generalizing i s with
  | nil => exact (List.append_nil _).symm
  | cons e es ih =>
    show (sysRun ws (i + 1) (sysStep (ws i) s e) es).sendLog = s.sendLog ++ (stepOut (ws i) s e ++ _)
    rw [ih, sysStep_sendLog, List.append_assoc]

theorem e2e_sendLog_eq_outs (ws : Nat → Go.World) (cap : Go.Chan → Nat) (es : List SEv) :
    (sysRun ws 0 (init cap) es).sendLog = (outs ws 0 (init cap) es).flatten := by
  rw [sendLog_eq_outs]; rfl

theorem inbounds_cons (e : SEv) (es : List SEv) : inbounds (e :: es) = inbounds [e] ++ inbounds es :=
  List.filterMap_append (l := [e]) (l' := es)

theorem perChan_broadcast (w : Go.World) (hw : w.OrdPOk) {h : Hub} {reg : List Client} (hc : Core h reg) (m : Message)
    (ch : Go.Chan) :
    perChan ch (Hub.Run_Broadcast w h 0 m) = if ch ∈ (sentTo w h m).map (·.Send) then [m] else [] := by
  have hnd := broadcast_out_chans_nodup w hw h reg hc m
  rw [broadcast_out_sentTo] at hnd ⊢
  rw [List.map_map] at hnd
  exact SendQ.perChan_fanout Client.Send m _ hnd ch

theorem run_in_order (ws : Nat → Go.World) (hws : ∀ i, (ws i).OrdPOk) (es : List SEv) (i : Nat) (s : Sys) (hi : Inv s)
    (hd : DiscFrom s.registered es) (ch : Go.Chan) : (perChan ch (outs ws i s es).flatten).Sublist (inbounds es) := by
  induction es generalizing i s with
  | nil => exact List.Sublist.refl _
  | cons e es ih =>
    obtain ⟨h1, h2⟩ := discFrom_cons s (ws i) e es hd
    show (perChan ch (stepOut (ws i) s e ++ (outs ws (i + 1) (sysStep (ws i) s e) es).flatten)).Sublist _
    rw [perChan_append, inbounds_cons]
    refine List.Sublist.append ?_ (ih (i + 1) _ (step_inv (ws i) (hws i) s e hi h1) h2)
    -- one step sends nothing on `ch` or, for `inbound m`, `m` once
    cases e with
    | inbound m =>
      show (perChan ch (Hub.Run_Broadcast (worldOf (ws i) s) s.h 0 m)).Sublist [m]
      rw [perChan_broadcast _ (worldOf_ok _ s (hws i)) hi.core]
      split
      · exact List.Sublist.refl _
      · exact List.nil_sublist _
    | _ => exact List.nil_sublist _

/-- the messages a history wants `c` to be sent: the inbound messages on `c`'s topic from another name that arrive
    while `c` is filed (`act`: is it filed now?) — between its `register` and the first `unregister` of it -/
def wantedBy (c : Client) : Bool → List SEv → List Message
  | _, [] => []
  | act, .register c' :: es => wantedBy c (act || decide (c' = c)) es
  | act, .unregister c' :: es => wantedBy c (act && !decide (c' = c)) es
  | act, .inbound m :: es =>
    (if act && decide (m.Sender.Topic = c.Topic) && !decide (m.Sender.Name = c.Name) then [m] else []) ++ wantedBy c act es
  | act, .drain _ _ :: es => wantedBy c act es

/-- at an `inbound m`, every member of the sender's topic other than the sender has room -/
def StepRoom (s : Sys) : SEv → Prop
  | .inbound m => ∀ c, filed s.h m.Sender.Topic c → c.Name ≠ m.Sender.Name → (s.q c.Send).length < s.cap c.Send
  | _ => True

def RoomFrom (ws : Nat → Go.World) : Nat → Sys → List SEv → Prop
  | _, _, [] => True
  | i, s, e :: es => StepRoom s e ∧ RoomFrom ws (i + 1) (sysStep (ws i) s e) es

theorem out_perChan_exact (o : Go.World) (ho : o.OrdPOk) (s : Sys) (hi : Inv s) (m : Message) (c : Client)
    (hown : ∀ c' ∈ s.registered, c'.Send = c.Send → c' = c) (hroom : StepRoom s (.inbound m)) :
    perChan c.Send (Hub.Run_Broadcast (worldOf o s) s.h 0 m)
      = if decide (filed s.h c.Topic c) && decide (m.Sender.Topic = c.Topic) && !decide (m.Sender.Name = c.Name)
        then [m] else [] := by
  have hw := worldOf_ok o s ho
  rw [perChan_broadcast (worldOf o s) hw hi.core]
  refine ite_congr (propext ?_) (fun _ => rfl) (fun _ => rfl)
  -- on `c`'s channel means to `c`, as nobody else registered has it
  rw [SendQ.map_mem_iff Client.Send fun c' hc' =>
    hown c' (hi.core.filed_reg _ c' ((mem_sentTo (worldOf o s) hw s.h m c').1 hc').1), mem_sentTo (worldOf o s) hw]
  simp only [Bool.and_eq_true, Bool.not_eq_true', decide_eq_true_eq, decide_eq_false_iff_not]
  constructor
  · rintro ⟨hf, hn, _⟩
    have ht := hi.core.wf.own _ c hf
    exact ⟨⟨ht ▸ hf, ht.symm⟩, fun e => hn e.symm⟩
  · rintro ⟨⟨hf, ht⟩, hn⟩
    have hf' : filed s.h m.Sender.Topic c := ht ▸ hf
    have hn' : c.Name ≠ m.Sender.Name := fun e => hn e.symm
    exact ⟨hf', hn', decide_eq_true (hroom c hf' hn')⟩

theorem run_lossless (ws : Nat → Go.World) (hws : ∀ i, (ws i).OrdPOk) (es : List SEv) (i : Nat) (s : Sys) (hi : Inv s)
    (hd : DiscFrom s.registered es) (hroom : RoomFrom ws i s es) (c : Client)
    (hown : ∀ c' ∈ (sysRun ws i s es).registered, c'.Send = c.Send → c' = c) :
    perChan c.Send (outs ws i s es).flatten = wantedBy c (decide (filed s.h c.Topic c)) es := by
  induction es generalizing i s with
  | nil => rfl
  | cons e es ih =>
    obtain ⟨h1, h2⟩ := discFrom_cons s (ws i) e es hd
    show perChan c.Send (stepOut (ws i) s e ++ (outs ws (i + 1) (sysStep (ws i) s e) es).flatten) = _
    rw [perChan_append, ih (i + 1) _ (step_inv (ws i) (hws i) s e hi h1) h2 hroom.2 hown]
    cases e with
    | register c' =>
      have hact : decide (filed (sysStep (ws i) s (.register c')).h c.Topic c)
          = (decide (filed s.h c.Topic c) || decide (c' = c)) := by
        rw [← Bool.decide_or]
        exact decide_eq_decide.2 (register_filed_own (worldOf (ws i) s) s.h 0 c' c)
      rw [hact]
      rfl
    | unregister c' =>
      have hact : decide (filed (sysStep (ws i) s (.unregister c')).h c.Topic c)
          = (decide (filed s.h c.Topic c) && !decide (c' = c)) := by
        rw [← decide_not, ← Bool.decide_and]
        exact decide_eq_decide.2 (unregister_filed_own (worldOf (ws i) s) s.h 0 c' c)
      rw [hact]
      rfl
    | inbound m =>
      -- nobody else has `c`'s channel in the end, hence nobody has it here (`registered_prefix`)
      exact congrArg (· ++ _) (out_perChan_exact (ws i) (hws i) s hi m c
        (fun c' hc' => hown c' ((registered_prefix ws (.inbound m :: es) i s).subset hc')) hroom.1)
    | drain ch k => rfl

/-- the invariant behind `e2e_lossless_big_caps`: every queue has room for all the inbounds still to come (a step adds
    at most one message to a queue, and only if it is an `inbound`) -/
theorem room_of_big_caps (ws : Nat → Go.World) (hws : ∀ i, (ws i).OrdPOk) (es : List SEv) (i : Nat) (s : Sys) (hi : Inv s)
    (hd : DiscFrom s.registered es) (hcap : ∀ ch, (s.q ch).length + (inbounds es).length ≤ s.cap ch) :
    RoomFrom ws i s es := by
  induction es generalizing i s with
  | nil => trivial
  | cons e es ih =>
    obtain ⟨h1, h2⟩ := discFrom_cons s (ws i) e es hd
    have hi' := step_inv (ws i) (hws i) s e hi h1
    cases e with
    | inbound m =>
      have hcap' : ∀ ch, (s.q ch).length + 1 + (inbounds es).length ≤ s.cap ch := fun ch =>
        Nat.add_right_comm .. ▸ hcap ch
      refine ⟨fun c _ _ => Nat.le_trans (Nat.le_add_right _ _) (hcap' c.Send), ih (i + 1) _ hi' h2 fun ch => ?_⟩
      have := SendQ.enqueue_length_le s.q _
        (broadcast_out_chans_nodup (worldOf (ws i) s) (worldOf_ok _ s (hws i)) s.h s.registered hi.core m) ch
      exact Nat.le_trans (Nat.add_le_add_right this _) (hcap' ch)
    | drain ch' k =>
      exact ⟨trivial, ih (i + 1) _ hi' h2 fun ch =>
        Nat.le_trans (Nat.add_le_add_right (SendQ.drain_length_le s.q ch' (k + 1) ch) _) (hcap ch)⟩
    | _ => exact ⟨trivial, ih (i + 1) _ hi' h2 hcap⟩

section E2E
variable (ws : Nat → Go.World) (hws : ∀ i, (ws i).OrdPOk) (cap : Go.Chan → Nat) (es : List SEv) (hd : Disc es)
include hws hd

/-- **the non-blocking send never overfills a queue** -/
theorem e2e_queue_bounded (ch : Go.Chan) : ((sysRun ws 0 (init cap) es).q ch).length ≤ cap ch := by
  have := (e2e_inv ws hws cap es hd).bounded ch
  rw [sysRun_cap] at this
  exact this

/-- **topic isolation and no echo, over the whole history**: every send the hub ever performed went to the send
    channel of a registered client on the sender's topic whose name is not the sender's -/
theorem e2e_isolation_no_echo (ch : Go.Chan) (m : Message) (hm : (ch, m) ∈ (sysRun ws 0 (init cap) es).sendLog) :
    ∃ c ∈ (sysRun ws 0 (init cap) es).registered, c.Send = ch ∧ c.Topic = m.Sender.Topic ∧ c.Name ≠ m.Sender.Name :=
  (e2e_inv ws hws cap es hd).sends ch m hm

/-- … and that client is the only registered client with this channel (or with this address) -/
theorem e2e_channel_owner_unique (a b : Client) (ha : a ∈ (sysRun ws 0 (init cap) es).registered)
    (hb : b ∈ (sysRun ws 0 (init cap) es).registered) (e : a.Send = b.Send ∨ a.addr__ = b.addr__) : a = b :=
  e.elim ((e2e_inv ws hws cap es hd).core.send_inj a ha b hb) ((e2e_inv ws hws cap es hd).core.addr_inj a ha b hb)

/-- only registered clients are filed, each under its own topic -/
theorem e2e_filed_registered (t : String) (c : Client) (hf : filed (sysRun ws 0 (init cap) es).h t c) :
    c ∈ (sysRun ws 0 (init cap) es).registered ∧ c.Topic = t :=
  ⟨(e2e_inv ws hws cap es hd).core.filed_reg t c hf, (e2e_inv ws hws cap es hd).core.wf.own t c hf⟩

/-- **in order, no duplication, on every channel**: the messages sent on `ch`, in the order they were sent, are a
    sublist of the inbound messages of the history, in the order they came in -/
theorem e2e_in_order_no_duplication_chan (ch : Go.Chan) :
    (((sysRun ws 0 (init cap) es).sendLog.filter (fun p => p.1 == ch)).map (·.2)).Sublist (inbounds es) := by
  show (perChan ch (sysRun ws 0 (init cap) es).sendLog).Sublist (inbounds es)
  rw [e2e_sendLog_eq_outs]
  exact run_in_order ws hws es 0 (init cap) (inv_init cap) hd ch

/-- **in order, no duplication** ("slices do not go backwards"): for every registered client `c`, the sequence of
    messages sent on `c.Send` is a SUBLIST of the sequence of inbound messages of the history — the hub may drop
    (it is lossy), it never reorders and never duplicates -/
theorem e2e_in_order_no_duplication (c : Client) (_hc : c ∈ (sysRun ws 0 (init cap) es).registered) :
    (((sysRun ws 0 (init cap) es).sendLog.filter (fun p => p.1 == c.Send)).map (·.2)).Sublist (inbounds es) :=
  e2e_in_order_no_duplication_chan ws hws cap es hd c.Send

/-- **lossless when ready**: if at every `inbound` of the history every member of the sender's topic other than the
    sender has room in its queue, nothing is dropped — every registered client is sent EXACTLY the inbound messages
    it wants (its topic, another name) that arrive while it is filed, in order -/
theorem e2e_lossless_when_ready (hroom : RoomFrom ws 0 (init cap) es) (c : Client)
    (hc : c ∈ (sysRun ws 0 (init cap) es).registered) :
    ((sysRun ws 0 (init cap) es).sendLog.filter (fun p => p.1 == c.Send)).map (·.2) = wantedBy c false es := by
  have hI := e2e_inv ws hws cap es hd
  have := run_lossless ws hws es 0 (init cap) (inv_init cap) hd hroom c (fun c' hc' e => hI.core.send_inj c' hc' c hc e)
  rw [decide_eq_false (fun hf => by cases hf)] at this
  show perChan c.Send (sysRun ws 0 (init cap) es).sendLog = _
  rwa [e2e_sendLog_eq_outs]

/-- … in particular when every capacity is at least the number of inbound messages of the history -/
theorem e2e_lossless_big_caps (hcap : ∀ ch, (inbounds es).length ≤ cap ch) (c : Client)
    (hc : c ∈ (sysRun ws 0 (init cap) es).registered) :
    ((sysRun ws 0 (init cap) es).sendLog.filter (fun p => p.1 == c.Send)).map (·.2) = wantedBy c false es :=
  e2e_lossless_when_ready ws hws cap es hd
    (room_of_big_caps ws hws es 0 (init cap) (inv_init cap) hd (fun ch => by simpa [init] using hcap ch)) c hc

end E2E

theorem register_files (o : Go.World) (s : Sys) (c : Client) :
    filed (sysStep o s (.register c)).h c.Topic c ∧ c ∈ (sysStep o s (.register c)).registered :=
  ⟨(register_filed (worldOf o s) s.h 0 c c.Topic c).2 (Or.inr ⟨rfl, rfl⟩), List.mem_concat_self⟩

theorem inbound_keeps_hub (o : Go.World) (s : Sys) (m : Message) : (sysStep o s (.inbound m)).h = s.h := rfl

/-- every function of the package's event loops is translated -/
theorem coverage : Gen.hub.untranslated = [] ∧
    Gen.hub.translated = ["Hub.RunWithStats_Broadcast", "Hub.RunWithStats_Register", "Hub.RunWithStats_Unregister",
      "Hub.Run_Broadcast", "Hub.Run_Register", "Hub.Run_Unregister"] := by
  constructor <;> rfl

/-! ## concrete hubs and histories: the hypotheses are satisfiable, the conclusions say something, the hub IS lossy -/

namespace Demo

deriving instance DecidableEq for Message

def a : Client := { (default : Client) with Name := "a", Topic := "t", Send := 1, Done := 11, addr__ := 1 }
def b : Client := { (default : Client) with Name := "b", Topic := "t", Send := 2, Done := 12, addr__ := 2 }
def c : Client := { (default : Client) with Name := "c", Topic := "u", Send := 3, Done := 13, addr__ := 3 }
def d : Client := { (default : Client) with Name := "d", Topic := "t", Send := 4, Done := 14, addr__ := 4 }

/-- ranges over maps backwards; the queue of `b` (channel 2) is full -/
def w : Go.World := { now := 0, fresh := "", ord := fun l => l, ordP := fun l => l.reverse, ready := fun ch => ch != 2 }

theorem w_ok : w.OrdPOk := fun _ _ m => List.reverse_perm m

def hub : Hub := Hub.Run_Register w (Hub.Run_Register w (Hub.Run_Register w (Hub.Run_Register w default 0 a) 0 b) 0 c) 0 d

theorem hub_wf : WF hub := register_wf _ _ _ _ (register_wf _ _ _ _ (register_wf _ _ _ _ (register_wf _ _ _ _ empty_wf)))

def msg : Message := { Sender := a, Type_ := 1, Data := [104, 105] }

example : filed hub "t" a ∧ filed hub "t" b ∧ filed hub "t" d ∧ filed hub "u" c ∧ ¬ filed hub "t" c := by decide +kernel

/-- it goes to `d` only: not back to `a`, not to `c` on the other topic, not to `b` whose queue is full … -/
example : Hub.Run_Broadcast w hub 0 msg = [(4, msg)] := by rfl
example : Hub.RunWithStats_Broadcast w hub 0 msg = [(4, msg)] := by rfl
example : sentTo w hub msg = [d] ∧ missed w hub msg = [b] := by decide

/-- … **the hub really is lossy**: `b` is filed under the topic, is not the sender, gets nothing — and is still filed
    afterwards (no eviction: the broadcast case does not touch the hub) -/
example : filed hub msg.Sender.Topic b ∧ b.Name ≠ msg.Sender.Name ∧ (∀ m', (b.Send, m') ∉ Hub.Run_Broadcast w hub 0 msg)
    ∧ filed (loopStep w 0 hub (.broadcast msg)) "t" b :=
  ⟨by decide, by decide,
   (broadcast_drops_exactly_the_not_ready w w_ok hub 0 msg b (by decide) (by decide)).2.1 (by decide),
   (broadcast_drops_exactly_the_not_ready w w_ok hub 0 msg b (by decide) (by decide)).2.2.2⟩

example : (d.Send, msg) ∈ Hub.Run_Broadcast w hub 0 msg :=
  broadcast_reaches_every_ready_target w w_ok hub 0 msg d (by decide) (by decide) (by decide)
example : (b.Send, msg) ∉ Hub.Run_Broadcast w hub 0 msg :=
  (broadcast_drops_exactly_the_not_ready w w_ok hub 0 msg b (by decide) (by decide)).1.2 (by decide)
example : b ∈ missed w hub msg :=
  (broadcast_drops_exactly_the_not_ready w w_ok hub 0 msg b (by decide) (by decide)).2.2.1.2 (by decide)
example : (sentTo w hub msg).Nodup := (broadcast_at_most_once w w_ok hub hub_wf 0 msg).1

/-- unregistering twice: the second changes nothing; unregistering closes nothing (there is nothing to close: the
    function returns the hub only) -/
example : ¬ filed (Hub.Run_Unregister w hub 0 b) "t" b ∧ filed (Hub.Run_Unregister w hub 0 b) "t" a ∧
    (Hub.Run_Unregister w (Hub.Run_Unregister w hub 0 b) 0 b).Clients = (Hub.Run_Unregister w hub 0 b).Clients := by
  decide +kernel

/-- `a`'s queue holds one message, everybody else's three -/
def cap : Go.Chan → Nat := fun ch => if ch = 1 then 1 else 3

def ws : Nat → Go.World := fun _ => { now := 0, fresh := "", ord := fun l => l, ordP := fun l => l.reverse }

theorem ws_ok : ∀ i, (ws i).OrdPOk := fun _ _ _ m => List.reverse_perm m

def m1 : Message := { Sender := b, Type_ := 1, Data := [1] }
def m2 : Message := { Sender := b, Type_ := 1, Data := [2] }
def m3 : Message := { Sender := b, Type_ := 1, Data := [3] }
def m4 : Message := { Sender := a, Type_ := 1, Data := [4] }
def m5 : Message := { Sender := c, Type_ := 1, Data := [5] }

/-- `a`, `b` join topic `t`, `c` joins topic `u`. `b` says `m1` (to `a`), then `m2`: `a`'s queue is full, `a` MISSES
    `m2` and stays filed. `a`'s reader takes one. `b` says `m3` (to `a` again). `a` says `m4` (to `b`). `c` says `m5`
    (nobody else on `u`). `a` is unregistered twice. `b` says `m3` again (nobody is left to hear it). -/
def hist : List SEv :=
  [.register a, .register b, .register c, .inbound m1, .inbound m2, .drain 1 0, .inbound m3, .inbound m4, .inbound m5,
   .unregister a, .unregister a, .inbound m3]

def fin : Sys := sysRun ws 0 (init cap) hist

theorem hist_disc : Disc hist := by decide

example : Disc hist := hist_disc

/-- what happened: `m2` was dropped for `a` -/
example : fin.sendLog.map (fun p => (p.1, p.2.Data)) = [(1, [1]), (1, [3]), (2, [4])] := by decide +kernel
example : (outs ws 0 (init cap) hist).map (fun o => o.map (·.1)) = [[], [], [], [1], [], [], [1], [2], [], [], [], []] := by
  decide +kernel
example : fin.registered = [a, b, c] := by decide
example : ¬ filed fin.h "t" a ∧ filed fin.h "t" b ∧ filed fin.h "u" c := by decide
/-- after missing `m2`, `a` is still filed (and therefore gets `m3`) -/
example : filed (sysRun ws 0 (init cap) (hist.take 5)).h "t" a := by decide
example : (fin.q 1).length = 1 ∧ (fin.q 2).length = 1 ∧ (fin.q 3).length = 0 := by decide +kernel
example : inbounds hist = [m1, m2, m3, m4, m5, m3] := by decide
example : (fin.sendLog.filter (fun p => p.1 == a.Send)).map (·.2) = [m1, m3] := by decide +kernel
/-- … whereas it wanted `m1, m2, m3`: the history is NOT lossless, `RoomFrom` fails -/
example : wantedBy a false hist = [m1, m2, m3] := by decide

example : (fin.q 1).length ≤ 1 := e2e_queue_bounded ws ws_ok cap hist hist_disc 1
example : ∃ x ∈ fin.registered, x.Send = 1 ∧ x.Topic = m1.Sender.Topic ∧ x.Name ≠ m1.Sender.Name :=
  e2e_isolation_no_echo ws ws_ok cap hist hist_disc 1 m1 (by decide)
example : [m1, m3].Sublist [m1, m2, m3, m4, m5, m3] :=
  e2e_in_order_no_duplication ws ws_ok cap hist hist_disc a (by decide +kernel)

/-- the same history with room for everything: nothing is dropped -/
def bigCap : Go.Chan → Nat := fun _ => 6

theorem bigCap_ok : ∀ ch, (inbounds hist).length ≤ bigCap ch := fun _ => (by decide : (inbounds hist).length ≤ 6)

example : ((sysRun ws 0 (init bigCap) hist).sendLog.filter (fun p => p.1 == a.Send)).map (·.2) = [m1, m2, m3] :=
  e2e_lossless_big_caps ws ws_ok bigCap hist hist_disc bigCap_ok a (by decide)
example : ((sysRun ws 0 (init bigCap) hist).sendLog.filter (fun p => p.1 == b.Send)).map (·.2) = [m4] :=
  e2e_lossless_big_caps ws ws_ok bigCap hist hist_disc bigCap_ok b (by decide)
example : ((sysRun ws 0 (init bigCap) hist).sendLog.filter (fun p => p.1 == c.Send)).map (·.2) = [] :=
  e2e_lossless_big_caps ws ws_ok bigCap hist hist_disc bigCap_ok c (by decide)
example : (sysRun ws 0 (init bigCap) hist).sendLog.map (fun p => (p.1, p.2.Data)) = [(1, [1]), (1, [2]), (1, [3]), (2, [4])] := by
  decide +kernel

/-- **the discipline matters**: a second client object that reuses `a`'s channel gets `a`'s messages interleaved with
    its own, and the owner of a send is not determined -/
def a' : Client := { a with Name := "a2", Topic := "u", addr__ := 5 }
def bad : List SEv := [.register a, .register b, .register c, .register a', .inbound m1, .inbound m5]

example : ¬ Disc bad := by decide
example : (sysRun ws 0 (init bigCap) bad).sendLog.map (fun p => (p.1, p.2.Data)) = [(1, [1]), (1, [5])] := by decide +kernel

end Demo

end TiePlainHub
