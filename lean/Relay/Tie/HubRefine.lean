import Relay.Tie.HubE2E

/-!
# Refinement over whole histories: the translated hub, composed with its channels, against the hand model

`Relay/Tie/Hub.lean` relates one step of each machine-translated `Hub.run` case to one step of the hand model;
`Relay/Tie/HubE2E.lean` composes the translated hub with its environment (bounded send queues, write pumps) and runs
whole histories. Here the two are put together. On the model side a client is named by its position in the
registration order, which is the name the model's counter gives it; then every history of the composed system that
satisfies `DiscR` and `Side` is, event for event (`absRun`), a history of the hand model, for all iteration orders and
capacities (`refine_run_witness`). The model's theorems (`Hub.run_inv`: isolation, no echo, exact delivery) are then
restated on the translated system's own observables — who is filed, what sits in which channel, which messages the
hub took from its broadcast channel (`translated_…`).

ASSUMED of the untranslated callers (`DiscRFrom`, `SideOk`): fresh client objects and channels with pairwise different
names (`serveWs`), unregister without look-alike names, inbound only from registered writers (`readPump`:
`if c.canWrite`), and — not a predicate on the event list — inbound only from a sender that is still filed at that
moment (`Demo.bad`: without it the refinement is FALSE). Drains are unconstrained.
-/

namespace TieHubRefine
open Gen.crossbar TieHub TieHubE2E

theorem toNat_inj {a b : Int} (ha : 0 ≤ a) (hb : 0 ≤ b) (e : a.toNat = b.toNat) : a = b := by
  rw [← Int.toNat_of_nonneg ha, ← Int.toNat_of_nonneg hb, e]

theorem map_inj_on {α β : Type} (g : α → β) (A B : List α) (e : A.map g = B.map g)
    (hinj : ∀ a ∈ A, ∀ b ∈ B, g a = g b → a = b) : A = B := by
  induction A generalizing B with
  | nil => cases B with
    | nil => rfl
    | cons b B => simp at e
  | cons a A ih => cases B with
    | nil => simp at e
    | cons b B =>
      simp only [List.map_cons, List.cons.injEq] at e
      rw [hinj a List.mem_cons_self b List.mem_cons_self e.1,
        ih B e.2 (fun x hx y hy => hinj x (List.mem_cons_of_mem _ hx) y (List.mem_cons_of_mem _ hy))]

def names (reg : List Client) : List String := reg.map (·.name)

/-- the model name of the client called `n`: its position in the registration order (`reg.length` if unknown) -/
def nameOf (reg : List Client) (n : String) : Nat := (names reg).idxOf n

theorem mem_names {reg : List Client} {c : Client} (h : c ∈ reg) : c.name ∈ names reg :=
  List.mem_map.2 ⟨c, h, rfl⟩

theorem not_mem_names {reg : List Client} {c : Client} (h : ∀ c' ∈ reg, c'.name ≠ c.name) : c.name ∉ names reg :=
  fun hm => (List.mem_map.1 hm).elim fun c' hc' => h c' hc'.1 hc'.2

theorem nameOf_lt (reg : List Client) (n : String) : nameOf reg n < reg.length ↔ n ∈ names reg := by
  unfold nameOf
  rw [← List.length_map (as := reg) (·.name)]
  exact List.idxOf_lt_length_iff

theorem nameOf_inj (reg : List Client) (a b : String) (ha : a ∈ names reg) (e : nameOf reg a = nameOf reg b) :
    a = b := by
  unfold nameOf at e
  have h1 : (names reg).idxOf a < (names reg).length := List.idxOf_lt_length_iff.2 ha
  -- both are the entry of `names reg` at that index
  exact (List.getElem_idxOf h1).symm.trans (by simp only [e, List.getElem_idxOf])

theorem nameOf_append_of_mem (reg more : List Client) (n : String) (h : n ∈ names reg) :
    nameOf (reg ++ more) n = nameOf reg n := by
  unfold nameOf
  simp only [names, List.map_append] at h ⊢
  rw [List.idxOf_append, if_pos h]

theorem nameOf_append_new (reg : List Client) (c : Client) (h : c.name ∉ names reg) :
    nameOf (reg ++ [c]) c.name = reg.length := by
  unfold nameOf
  simp only [names, List.map_append, List.map_cons, List.map_nil] at h ⊢
  rw [List.idxOf_append, if_neg h]
  simp

theorem client_of_nameOf (reg : List Client) (hnd : (names reg).Nodup) (a b : Client) (ha : a ∈ reg) (hb : b ∈ reg)
    (e : nameOf reg a.name = nameOf reg b.name) : a = b :=
  _root_.Hub.name_unique (List.pairwise_map.1 hnd) ha hb (nameOf_inj reg _ _ (mem_names ha) e)

/-- a translated message as a model message. A Go `message` has no topic of its own: the model's is the sender's
    (`Hub.run`: `topic := message.sender.topic`) -/
def absMsg (f : String → Nat) (m : message) : MMsg :=
  { sender := f m.sender.name, topic := m.sender.topic, data := m.data.map Int.toNat, mt := m.mt.toNat }

theorem absMsg_stable (reg more : List Client) (m : message) (h : m.sender.name ∈ names reg) :
    absMsg (nameOf (reg ++ more)) m = absMsg (nameOf reg) m := by
  simp only [absMsg, nameOf_append_of_mem reg more _ h]

def owner (reg : List Client) (ch : Go.Chan) : Option Client := reg.find? (fun c => c.send == ch)

/-- the model events that one event of the composed system stands for. A `drain ch k` (the write pump takes `k + 1`
    messages from `ch`) is, for a reader, ONE model drain of `k + 1` messages (`writePump` puts what is queued into one
    websocket frame); for a client that may not read, `k + 1` model drains (the model's write pump discards one
    message per iteration); for a channel no registered client owns, nothing. -/
def absEv (s : Sys) : SEv → List _root_.Hub.Ev
  | .register c => [.register c.topic c.bookingID c.canRead c.canWrite (s.cap c.send)]
  | .unregister c => [.unregister (nameOf s.registered c.name)]
  | .inbound m => [.inbound (nameOf s.registered m.sender.name) (m.data.map Int.toNat) m.mt.toNat]
  | .drain ch k =>
    match owner s.registered ch with
    | some c =>
      if c.canRead then [.drain (nameOf s.registered c.name) k]
      else List.replicate (k + 1) (.drain (nameOf s.registered c.name) 0)
    | none => []

def absRun (ws : Nat → Go.World) : Nat → Sys → List SEv → List _root_.Hub.Ev
  | _, _, [] => []
  | i, s, e :: es => absEv s e ++ absRun ws (i + 1) (sysStep (ws i) s e) es

/-! ## ASSUMPTIONS about the untranslated callers: the discipline `DiscR`, the run-time side condition `Side` -/

/-- the discipline, given the clients registered so far (`prev`):
    * `register c`: `c` is fresh as in `TieHubE2E.Disc` (a new object with a new `send` channel: `serveWs` does
      `client := &Client{…, send: make(chan message, n)}` per connection), AND its `name` differs from the name of
      every client registered before (`serveWs`: `name: uuid.New().String()`)
    * `unregister c`: no OTHER client registered so far carries `c`'s name (weaker than "`c` was registered before",
      which is what `readPump`'s deferred `c.hub.unregister <- c` guarantees; also allows a never-registered client
      with a never-used name)
    * `inbound m`: the sender is a client registered before and may write (`readPump` puts a frame on
      `c.hub.broadcast` only `if c.canWrite`, with `sender: *c`)
    * `drain ch k`: unconstrained -/
def DiscRFrom : List Client → List SEv → Prop
  | _, [] => True
  | prev, .register c :: es => (freshFor prev c ∧ ∀ c' ∈ prev, c'.name ≠ c.name) ∧ DiscRFrom (prev ++ [c]) es
  | prev, .unregister c :: es => (∀ c' ∈ prev, c'.name = c.name → c' = c) ∧ DiscRFrom prev es
  | prev, .inbound m :: es => (m.sender ∈ prev ∧ m.sender.canWrite = true) ∧ DiscRFrom prev es
  | prev, .drain _ _ :: es => DiscRFrom prev es

/-- **ASSUMPTION about the callers** (`serveWs`, `readPump`), see `DiscRFrom` -/
def DiscR (es : List SEv) : Prop := DiscRFrom [] es

instance DiscRFrom.dec : (prev : List Client) → (es : List SEv) → Decidable (DiscRFrom prev es)
  | _, [] => isTrue trivial
  | prev, .register c :: es =>
    have := DiscRFrom.dec (prev ++ [c]) es
    (inferInstance : Decidable ((freshFor prev c ∧ ∀ c' ∈ prev, c'.name ≠ c.name) ∧ DiscRFrom (prev ++ [c]) es))
  | prev, .unregister c :: es =>
    have := DiscRFrom.dec prev es
    (inferInstance : Decidable ((∀ c' ∈ prev, c'.name = c.name → c' = c) ∧ DiscRFrom prev es))
  | prev, .inbound m :: es =>
    have := DiscRFrom.dec prev es
    (inferInstance : Decidable ((m.sender ∈ prev ∧ m.sender.canWrite = true) ∧ DiscRFrom prev es))
  | prev, .drain _ _ :: es => DiscRFrom.dec prev es

instance (es : List SEv) : Decidable (DiscR es) := DiscRFrom.dec [] es

theorem discRFrom_disc (prev : List Client) (es : List SEv) (h : DiscRFrom prev es) : DiscFrom prev es := by
  induction es generalizing prev with
  | nil => trivial
  | cons e es ih =>
    cases e with
    | register c => exact ⟨h.1.1, ih _ h.2⟩
    | drain ch k => exact ih _ h
    | _ => exact ih _ h.2

/-- `DiscRFrom`'s clause for one event, with `s.registered` for `prev` -/
def StepR (s : Sys) : SEv → Prop
  | .register c => freshFor s.registered c ∧ ∀ c' ∈ s.registered, c'.name ≠ c.name
  | .unregister c => ∀ c' ∈ s.registered, c'.name = c.name → c' = c
  | .inbound m => m.sender ∈ s.registered ∧ m.sender.canWrite = true
  | .drain _ _ => True

/-- **the run-time side condition** for one step from `s`: the sender of an `inbound` is still filed in the hub at
    that moment (`readPump` stops reading once its client has been removed: `remove` closes `c.send`, `writePump`
    then closes the connection, and `ReadMessage` fails). Whether a client is still filed depends on the evictions,
    hence on capacities, drains and iteration orders: it is not a predicate on the event list alone. It IS needed:
    the translated `run_broadcast` fans out for ANY sender, the model's `inbound` only for a member. -/
def SideOk (s : Sys) : SEv → Prop
  | .inbound m => filed s.h m.sender.topic m.sender
  | _ => True

instance (s : Sys) (e : SEv) : Decidable (SideOk s e) := by
  cases e <;> unfold SideOk <;> infer_instance

def Side (ws : Nat → Go.World) : Nat → Sys → List SEv → Prop
  | _, _, [] => True
  | i, s, e :: es => SideOk s e ∧ Side ws (i + 1) (sysStep (ws i) s e) es

instance Side.dec (ws : Nat → Go.World) : (i : Nat) → (s : Sys) → (es : List SEv) → Decidable (Side ws i s es)
  | _, _, [] => isTrue trivial
  | i, s, e :: es =>
    have := Side.dec ws (i + 1) (sysStep (ws i) s e) es
    (inferInstance : Decidable (SideOk s e ∧ Side ws (i + 1) (sysStep (ws i) s e) es))

/-- a sufficient form of `Side` without recursion: whenever the history reaches an `inbound m`, the sender is filed in
    the hub at that moment -/
theorem side_of_prefixes (ws : Nat → Go.World) (es : List SEv) (i : Nat) (s : Sys)
    (h : ∀ pre m post, es = pre ++ .inbound m :: post → filed (sysRun ws i s pre).h m.sender.topic m.sender) :
    Side ws i s es := by
  induction es generalizing i s with
  | nil => trivial
  | cons e es ih =>
    refine ⟨?_, ih (i + 1) (sysStep (ws i) s e) (fun pre m post e' => h (e :: pre) m post (by rw [e']; rfl))⟩
    cases e with
    | inbound m => exact h [] m es rfl
    | _ => trivial

theorem discRFrom_cons (s : Sys) (o : Go.World) (e : SEv) (es : List SEv) (h : DiscRFrom s.registered (e :: es)) :
    StepR s e ∧ DiscRFrom (sysStep o s e).registered es := by
  cases e with
  | drain ch k => exact ⟨trivial, h⟩
  | _ => exact h

theorem stepR_stepOk (s : Sys) (e : SEv) (h : StepR s e) : StepOk s e := by
  cases e with
  | register c => exact h.1
  | _ => trivial

/-- `M` is the model hub of the composed system `s` -/
structure Abs (s : Sys) (M : MHub) : Prop where
  /-- members ↔ filed clients, the member of a client named by the client's position in the registration order -/
  sim : Sim (nameOf s.registered) s.h M
  next : M.next = s.registered.length
  queue : ∀ c mc, mc ∈ M.members → Corr (nameOf s.registered) s.h c mc →
    mc.queue = (s.q c.send).map (absMsg (nameOf s.registered)) ∧ mc.cap = s.cap c.send
  -- the remaining three are about `s` alone
  names_nodup : (names s.registered).Nodup
  idle : ∀ ch, (∀ c ∈ s.registered, c.send ≠ ch) → s.q ch = []
  senders : ∀ ch m, m ∈ s.q ch → m.sender.name ∈ names s.registered

theorem abs_init (cap : Go.Chan → Nat) : Abs (init cap) {} where
  sim := sim_empty _
  next := rfl
  queue := fun _ _ hmc => by cases hmc
  names_nodup := List.nodup_nil
  idle := fun _ _ => rfl
  senders := fun _ _ hm => by cases hm

theorem Abs.member {s : Sys} {M : MHub} (hA : Abs s M) {t : String} {c : Client} (hf : filed s.h t c) :
    ∃ mc ∈ M.members, mc.topic = t ∧ Corr (nameOf s.registered) s.h c mc := hA.sim.fwd t c hf

theorem Abs.corr_lt {s : Sys} {M : MHub} (hA : Abs s M) (hI : Inv s) {c : Client} {mc : MClient}
    (hc : Corr (nameOf s.registered) s.h c mc) : mc.name < M.next := by
  rw [hc.name, hA.next, nameOf_lt]
  exact mem_names (hI.core.filed_reg _ c hc.filed)

/-- discharges `hag` of `sim_broadcast`: the non-blocking send to a filed client goes through exactly when the
    model's `hasRoom` says so for the member carrying the client's name -/
theorem Abs.ready {s : Sys} {M : MHub} (hA : Abs s M) (o : Go.World) {t : String} {c : Client} {mc : MClient}
    (hf : filed s.h t c) (hmc : mc ∈ M.members) (hn : mc.name = nameOf s.registered c.name) :
    (worldOf o s).ready c.send = _root_.Hub.hasRoom mc := by
  obtain ⟨mc0, hmc0, _, hc0⟩ := hA.member hf
  obtain rfl := pairwise_name_unique _ hA.sim.nodup mc0 mc hmc0 hmc (hc0.name.trans hn.symm)
  obtain ⟨e1, e2⟩ := hA.queue c mc0 hmc0 hc0
  simp only [worldOf_ready, _root_.Hub.hasRoom, e1, e2, List.length_map]

/-! ## the shape shared by `unregister`, `inbound` and `drain`: nobody registers, no capacity changes, nobody new is
filed, and a member changes in its queue only -/

/-- what `Sim` and `Abs` look at in a member, apart from the queue, is the same -/
structure SameId (a b : MClient) : Prop where
  name : b.name = a.name
  topic : b.topic = a.topic
  canRead : b.canRead = a.canRead
  canWrite : b.canWrite = a.canWrite
  cap : b.cap = a.cap

theorem SameId.of_same {a b : MClient} (h : _root_.Hub.Same b a) : SameId a b :=
  ⟨h.name, h.topic, h.canRead, h.canWrite, h.cap⟩

/-- `hmem`: each member afterwards is a member before with the same identity, its queue what the client's channel
    holds afterwards. `hq`: a message in a queue afterwards was there before, or was put on a registered client's
    channel by a registered sender (this is what `idle` and `senders` need). -/
theorem Abs.step_same_reg {s s' : Sys} {M M' : MHub} (hA : Abs s M)
    (hreg : s'.registered = s.registered) (hcap : s'.cap = s.cap) (hnext : M'.next = M.next)
    (hsim : Sim (nameOf s.registered) s'.h M') (hfiled : ∀ t c, filed s'.h t c → filed s.h t c)
    (hmem : ∀ mc' ∈ M'.members, ∃ mc ∈ M.members, SameId mc mc' ∧
      ∀ c, Corr (nameOf s.registered) s.h c mc → mc'.queue = (s'.q c.send).map (absMsg (nameOf s.registered)))
    (hq : ∀ ch, ∀ m ∈ s'.q ch, m ∈ s.q ch ∨
      ((∃ c ∈ s.registered, c.send = ch) ∧ m.sender.name ∈ names s.registered)) :
    Abs s' M' where
  sim := by rw [hreg]; exact hsim
  next := by rw [hreg, hnext]; exact hA.next
  queue := by
    intro c mc' hmc' hco
    rw [hreg] at hco ⊢
    obtain ⟨mc, hmc, hid, hqq⟩ := hmem mc' hmc'
    have hco0 : Corr (nameOf s.registered) s.h c mc :=
      ⟨hid.topic ▸ hfiled _ c hco.filed, hid.name.symm.trans hco.name, hid.canRead.symm.trans hco.canRead,
        hid.canWrite.symm.trans hco.canWrite⟩
    exact ⟨hqq c hco0, by rw [hcap]; exact hid.cap.trans (hA.queue c mc hmc hco0).2⟩
  names_nodup := by rw [hreg]; exact hA.names_nodup
  idle := by
    intro ch hch
    rw [hreg] at hch
    apply List.eq_nil_iff_forall_not_mem.2
    intro m hm
    rcases hq ch m hm with h | ⟨⟨c, hc, e⟩, _⟩
    · rw [hA.idle ch hch] at h; cases h
    · exact hch c hc e
  senders := by
    intro ch m hm
    rw [hreg]
    rcases hq ch m hm with h | ⟨_, h⟩
    · exact hA.senders ch m h
    · exact h

theorem refine_register (o : Go.World) (s : Sys) (M : MHub) (hA : Abs s M) (hI : Inv s) (c : Client)
    (hd : StepR s (.register c)) :
    Abs (sysStep o s (.register c))
      (_root_.Hub.step M (.register c.topic c.bookingID c.canRead c.canWrite (s.cap c.send))) := by
  obtain ⟨hfr, hnm⟩ := hd
  have hnew := not_mem_names hnm
  have hgf : ∀ t a, filed s.h t a → nameOf (s.registered ++ [c]) a.name = nameOf s.registered a.name :=
    fun t a hf => nameOf_append_of_mem s.registered [c] _ (mem_names (hI.core.filed_reg t a hf))
  have hgc : nameOf (s.registered ++ [c]) c.name = M.next := by
    rw [hA.next]; exact nameOf_append_new s.registered c hnew
  have hfresh : ∀ mc ∈ M.members, mc.name ≠ M.next := fun mc hmc =>
    (hA.sim.bwd mc hmc).elim fun _ h => Nat.ne_of_lt (hA.corr_lt hI h)
  have hwho : ∀ a mc, Corr (nameOf (s.registered ++ [c])) (Hub.run_register (worldOf o s) s.h c) a mc →
      Corr (nameOf s.registered) s.h a mc ∨ (a = c ∧ mc.name = M.next) := by
    intro a mc hco
    rcases (register_filed (worldOf o s) s.h c mc.topic a).1 hco.filed with hf | ⟨_, rfl⟩
    · exact Or.inl ⟨hf, hco.name.trans (hgf _ a hf), hco.canRead, hco.canWrite⟩
    · exact Or.inr ⟨rfl, hco.name.trans hgc⟩
  exact {
    sim := sim_register _ (worldOf o s) s.h M (hA.sim.congr hgf) c c.bookingID (s.cap c.send) hgc hfresh
    next := by
      show M.next + 1 = (s.registered ++ [c]).length
      rw [hA.next, List.length_append]; rfl
    queue := by
      intro a mc hmc hco
      rcases List.mem_append.1 (show mc ∈ M.members ++ [_] from hmc) with hm | hm
      · obtain ⟨e1, e2⟩ := hA.queue a mc hm ((hwho a mc hco).resolve_right fun h => hfresh mc hm h.2)
        refine ⟨e1.trans (List.map_congr_left fun m hm' => ?_), e2⟩
        exact (absMsg_stable s.registered [c] m (hA.senders _ m hm')).symm
      · -- the new member: a client filed before is named below `M.next`, so it stands for `c`, whose channel is new
        rw [List.mem_singleton.1 hm] at hco ⊢
        obtain ⟨rfl, _⟩ := (hwho a _ hco).resolve_left fun h => Nat.lt_irrefl _ (hA.corr_lt hI h)
        exact ⟨(List.map_eq_nil_iff.2 (hA.idle a.send fun c' hc' => (hfr.2 c' hc').1)).symm, rfl⟩
    names_nodup := by
      show (names (s.registered ++ [c])).Nodup
      rw [names, List.map_append]
      exact SendQ.nodup_snoc _ _ hA.names_nodup hnew
    idle := fun ch hch => hA.idle ch (fun c' hc' => hch c' (List.mem_append_left _ hc'))
    senders := by
      intro ch m hm
      obtain ⟨x, hx, e⟩ := List.mem_map.1 (hA.senders ch m hm)
      exact List.mem_map.2 ⟨x, List.mem_append_left _ hx, e⟩ }

theorem refine_unregister (o : Go.World) (s : Sys) (M : MHub) (hA : Abs s M) (hI : Inv s) (c : Client)
    (hd : StepR s (.unregister c)) :
    Abs (sysStep o s (.unregister c)) (_root_.Hub.step M (.unregister (nameOf s.registered c.name))) := by
  have hh : (sysStep o s (.unregister c)).h = (Hub.remove (worldOf o s) s.h c).1 :=
    congrArg Prod.fst (unregister_eq (worldOf o s) s.h c)
  refine hA.step_same_reg rfl rfl rfl ?_ (fun t a hf => ((remove_filed (worldOf o s) s.h c t a).1 (hh ▸ hf)).1) ?_
    (fun ch m hm => Or.inl hm)
  · rw [hh]
    refine sim_remove _ (worldOf o s) s.h hI.core.wf M hA.sim c (fun t c' hf e => ?_)
    have hr := hI.core.filed_reg t c' hf
    exact hd c' hr (nameOf_inj _ _ _ (mem_names hr) e)
  · intro mc hmc
    have hmc0 : mc ∈ M.members := (List.mem_filter.1 hmc).1
    exact ⟨mc, hmc0, .of_same .rfl, fun a hco => (hA.queue a mc hmc0 hco).1⟩

/-- a drain of `ch` against a member-wise change of the model that shortens the right queue -/
theorem abs_drain (o : Go.World) (s : Sys) (M : MHub) (hA : Abs s M) (ch : Go.Chan) (k : Nat)
    (g : MClient → MClient) (hg : ∀ mc, _root_.Hub.Same (g mc) mc)
    (hgq : ∀ c mc, mc ∈ M.members → Corr (nameOf s.registered) s.h c mc →
      (g mc).queue = if c.send = ch then mc.queue.drop (k + 1) else mc.queue) :
    Abs (sysStep o s (.drain ch k)) { M with members := M.members.map g } := by
  have hq : ∀ ch', (sysStep o s (.drain ch k)).q ch' = if ch' = ch then (s.q ch').drop (k + 1) else s.q ch' :=
    fun _ => rfl
  refine hA.step_same_reg rfl rfl rfl (hA.sim.map g hg) (fun _ _ hf => hf) ?_ ?_
  · intro mc' hmc'
    obtain ⟨mc, hmc, rfl⟩ := List.mem_map.1 hmc'
    refine ⟨mc, hmc, .of_same (hg mc), fun c hco => ?_⟩
    rw [hgq c mc hmc hco, (hA.queue c mc hmc hco).1, hq]
    split
    · exact List.map_drop.symm
    · rfl
  · intro ch' m hm
    rw [hq] at hm
    split at hm
    · exact Or.inl (List.mem_of_mem_drop hm)
    · exact Or.inl hm

/-- `hj`: a model drain `j` takes `j + 1` messages from a member that may read, one from a member that may not -/
theorem abs_drain_owner (o : Go.World) (s : Sys) (M : MHub) (hA : Abs s M) (hI : Inv s) (c0 : Client)
    (hc0 : c0 ∈ s.registered) (k j : Nat) (hj : (if c0.canRead then j + 1 else 1) = k + 1) :
    Abs (sysStep o s (.drain c0.send k)) (_root_.Hub.step M (.drain (nameOf s.registered c0.name) j)) := by
  refine abs_drain o s M hA c0.send k _ (fun mc => _root_.Hub.drainC_if_same _ mc j) ?_
  · intro c mc hmc hco
    have hcr := hI.core.filed_reg _ c hco.filed
    by_cases hs : c.send = c0.send
    · obtain rfl : c = c0 := hI.core.send_inj c hcr c0 hc0 hs
      simp only [hco.name, beq_self_eq_true, if_true]
      rw [_root_.Hub.drainC_queue, hco.canRead, hj]
    · have hne : mc.name ≠ nameOf s.registered c0.name := fun e =>
        hs (client_of_nameOf _ hA.names_nodup c c0 hcr hc0 (hco.name.symm.trans e) ▸ rfl)
      simp [hne, hs]

theorem refine_drain (o : Go.World) (ho : o.OrdPOk) (s : Sys) (M : MHub) (hA : Abs s M) (hI : Inv s) (ch : Go.Chan)
    (k : Nat) :
    Abs (sysStep o s (.drain ch k)) ((absEv s (.drain ch k)).foldl _root_.Hub.step M) := by
  cases hfind : owner s.registered ch with
  | none =>
    simp only [absEv, hfind, List.foldl_nil]
    unfold owner at hfind
    have hnone : ∀ c ∈ s.registered, c.send ≠ ch := fun c hc e => by
      simpa [e] using List.find?_eq_none.1 hfind c hc
    have := abs_drain o s M hA ch k id (fun _ => .rfl) (by
      intro c mc _ hco
      have := hnone c (hI.core.filed_reg _ c hco.filed)
      simp [this])
    simpa using this
  | some c0 =>
    simp only [absEv, hfind]
    unfold owner at hfind
    have hc0 : c0 ∈ s.registered := List.mem_of_find?_eq_some hfind
    obtain rfl : c0.send = ch := by simpa using List.find?_some hfind
    by_cases hr : c0.canRead = true
    · simp only [hr, if_true, List.foldl_cons, List.foldl_nil]
      exact abs_drain_owner o s M hA hI c0 hc0 k k (if_pos hr)
    · have hr' : c0.canRead = false := by simpa using hr
      simp only [hr', Bool.false_eq_true, if_false]
      -- `k + 1` iterations of the model's write pump, each discarding one message
      induction k with
      | zero => exact abs_drain_owner o s M hA hI c0 hc0 0 0 (ite_self _)
      | succ k ih =>
        rw [List.replicate_succ', List.foldl_append, ← drain_succ]
        exact abs_drain_owner o _ _ ih (step_inv o ho s _ hI trivial) c0 hc0 0 0 (ite_self _)

theorem inbound_queue (w : Go.World) (hw : w.OrdPOk) (h : Hub) (reg : List Client) (cl : List Go.Chan)
    (hc : Core h reg cl) (q : Go.Chan → List message) (m : message) (ch : Go.Chan) :
    enqueue q (Hub.run_broadcast w h m).2.2 ch
      = q ch ++ (if ch ∈ (sentTo w h m).map (·.send) then [m] else []) := by
  have hnd := broadcast_out_chans_nodup w hw h reg cl hc m
  rw [broadcast_out_sentTo, List.map_map] at hnd
  rw [enqueue_apply, broadcast_out_sentTo]
  exact congrArg (q ch ++ ·) (SendQ.perChan_fanout Client.send m _ hnd ch)

/-- by `SideOk` the model finds the sender's member, by `StepR` it may write: so the model's `inbound` does broadcast -/
theorem inbound_step_eq (s : Sys) (M : MHub) (hA : Abs s M) (m : message)
    (hd : StepR s (.inbound m)) (hside : SideOk s (.inbound m)) :
    _root_.Hub.step M (.inbound (nameOf s.registered m.sender.name) (m.data.map Int.toNat) m.mt.toNat)
      = _root_.Hub.broadcast M (absMsg (nameOf s.registered) m) := by
  have hfs : filed s.h m.sender.topic m.sender := hside
  obtain ⟨ms, hms, hmst, hmsc⟩ := hA.member hfs
  have hfm : _root_.Hub.findMember M (nameOf s.registered m.sender.name) = some ms := by
    rw [← hmsc.name]; exact _root_.Hub.find?_name hA.sim.nodup hms
  have hcw : ms.canWrite = true := hmsc.canWrite.trans hd.2
  simp only [_root_.Hub.step, hfm, hcw, if_true, absMsg, hmsc.name, hmst]

theorem refine_inbound (o : Go.World) (ho : o.OrdPOk) (s : Sys) (M : MHub) (hA : Abs s M) (hI : Inv s) (m : message)
    (hd : StepR s (.inbound m)) (hside : SideOk s (.inbound m)) :
    Abs (sysStep o s (.inbound m))
      (_root_.Hub.step M (.inbound (nameOf s.registered m.sender.name) (m.data.map Int.toNat) m.mt.toNat)) := by
  have hw : (worldOf o s).OrdPOk := worldOf_ok o s ho
  have hwf := hI.core.wf
  have hfs : filed s.h m.sender.topic m.sender := hside
  rw [inbound_step_eq s M hA m hd hside]
  obtain ⟨hsim, hsent, _⟩ := sim_broadcast (nameOf s.registered) (worldOf o s) hw s.h hwf M hA.sim m
    (absMsg (nameOf s.registered) m) rfl rfl (hsn_of_sender_filed _ s.h M hA.sim m hfs) fun _ _ => hA.ready o
  have hq : ∀ ch, (sysStep o s (.inbound m)).q ch
      = s.q ch ++ (if ch ∈ (sentTo (worldOf o s) s.h m).map (·.send) then [m] else []) :=
    fun ch => inbound_queue (worldOf o s) hw s.h s.registered s.closedLog hI.core s.q m ch
  have hreg : ∀ c ∈ sentTo (worldOf o s) s.h m, c ∈ s.registered := fun c hcs =>
    hI.core.filed_reg _ c ((mem_sentTo (worldOf o s) hw s.h m c).1 hcs).1
  refine hA.step_same_reg rfl rfl rfl hsim
    (fun t a hf => ((broadcast_filed (worldOf o s) hw s.h hwf m t a).1 hf).1) ?_ ?_
  · intro mc' hmc'
    obtain ⟨mc, hmc, hoff⟩ := List.mem_filterMap.1 hmc'
    refine ⟨mc, hmc, .of_same (_root_.Hub.offer_same hoff), fun a hco => ?_⟩
    -- the channel got `m` iff the model enqueued it
    have hiff : a.send ∈ (sentTo (worldOf o s) s.h m).map (·.send) ↔ a ∈ sentTo (worldOf o s) s.h m :=
      SendQ.map_mem_iff Client.send fun c hcs e =>
        hI.core.send_inj c (hreg c hcs) a (hI.core.filed_reg _ a hco.filed) e
    have hsa := hsent a mc hco hmc
    rw [hoff, Option.map_some, Option.some.injEq, ← hiff] at hsa
    rw [hq]
    rcases _root_.Hub.offer_some hoff with ⟨_, e⟩ | ⟨_, _, e⟩ <;> rw [e] at hsa ⊢
    · rw [if_neg (fun x => by simpa using hsa.1 x), List.append_nil]
      exact (hA.queue a mc hmc hco).1
    · rw [if_pos (hsa.2 rfl), List.map_append, ← (hA.queue a mc hmc hco).1]
      rfl
  · intro ch m' hm'
    rw [hq] at hm'
    rcases List.mem_append.1 hm' with h1 | h1
    · exact Or.inl h1
    · split at h1
      · rename_i hch
        obtain ⟨c, hcs, e⟩ := List.mem_map.1 hch
        rw [List.mem_singleton.1 h1]
        exact Or.inr ⟨⟨c, hreg c hcs, e⟩, mem_names hd.1⟩
      · cases h1

/-- **one step of the composed translated system is the corresponding steps of the model** -/
theorem refine_step (o : Go.World) (ho : o.OrdPOk) (s : Sys) (M : MHub) (hA : Abs s M) (hI : Inv s) (e : SEv)
    (hd : StepR s e) (hside : SideOk s e) :
    Abs (sysStep o s e) ((absEv s e).foldl _root_.Hub.step M) := by
  cases e with
  | register c => exact refine_register o s M hA hI c hd
  | unregister c => exact refine_unregister o s M hA hI c hd
  | inbound m => exact refine_inbound o ho s M hA hI m hd hside
  | drain ch k => exact refine_drain o ho s M hA hI ch k

/-- from any pair of related states, at every point of a disciplined history; the rest is disciplined from there -/
theorem refine_prefix (ws : Nat → Go.World) (hws : ∀ i, (ws i).OrdPOk) (pre post : List SEv) (i : Nat) (s : Sys)
    (M : MHub) (hA : Abs s M) (hI : Inv s) (hd : DiscRFrom s.registered (pre ++ post))
    (hside : Side ws i s (pre ++ post)) :
    Abs (sysRun ws i s pre) ((absRun ws i s pre).foldl _root_.Hub.step M) ∧ Inv (sysRun ws i s pre) ∧
      DiscRFrom (sysRun ws i s pre).registered post ∧ Side ws (i + pre.length) (sysRun ws i s pre) post := by
  induction pre generalizing i s M with
  | nil => exact ⟨hA, hI, hd, hside⟩
  | cons e pre ih =>
    obtain ⟨h1, h2⟩ := discRFrom_cons s (ws i) e (pre ++ post) hd
    simp only [sysRun, absRun, List.foldl_append, List.length_cons]
    rw [Nat.add_comm pre.length 1, ← Nat.add_assoc]
    exact ih (i + 1) _ _ (refine_step (ws i) (hws i) s M hA hI e h1 hside.1)
      (step_inv (ws i) (hws i) s e hI (stepR_stepOk s e h1)) h2 hside.2

theorem refine_from (ws : Nat → Go.World) (hws : ∀ i, (ws i).OrdPOk) (es : List SEv) (i : Nat) (s : Sys) (M : MHub)
    (hA : Abs s M) (hI : Inv s) (hd : DiscRFrom s.registered es) (hside : Side ws i s es) :
    Abs (sysRun ws i s es) ((absRun ws i s es).foldl _root_.Hub.step M) :=
  (refine_prefix ws hws es [] i s M hA hI ((List.append_nil es).symm ▸ hd) ((List.append_nil es).symm ▸ hside)).1

/-- **refinement over whole histories**: every history of the composed translated system that satisfies the
    discipline `DiscR` and the run-time side condition `Side` (senders are still filed when they send) is, event
    for event (`absRun`), a history of the hand model — for every family of iteration orders, every capacity
    assignment. -/
theorem refine_run_witness (ws : Nat → Go.World) (hws : ∀ i, (ws i).OrdPOk) (cap : Go.Chan → Nat) (es : List SEv)
    (hd : DiscR es) (hside : Side ws 0 (init cap) es) :
    Abs (sysRun ws 0 (init cap) es) (_root_.Hub.run (absRun ws 0 (init cap) es)) :=
  refine_from ws hws es 0 (init cap) {} (abs_init cap) (inv_init cap) hd hside

/-- … without naming the model history -/
theorem refine_run (ws : Nat → Go.World) (hws : ∀ i, (ws i).OrdPOk) (cap : Go.Chan → Nat) (es : List SEv)
    (hd : DiscR es) (hside : Side ws 0 (init cap) es) :
    ∃ evs : List _root_.Hub.Ev, Abs (sysRun ws 0 (init cap) es) (_root_.Hub.run evs) :=
  ⟨_, refine_run_witness ws hws cap es hd hside⟩

/-! ## the model's ghost history along a run: what was broadcast, and when a member joined -/

/-- the messages the hub took from its broadcast channel, in order -/
def inbounds : List SEv → List message
  | [] => []
  | .inbound m :: es => m :: inbounds es
  | .register _ :: es => inbounds es
  | .unregister _ :: es => inbounds es
  | .drain _ _ :: es => inbounds es

theorem inbounds_cons (e : SEv) (es : List SEv) : inbounds (e :: es) = inbounds [e] ++ inbounds es := by
  cases e <;> rfl

/-- "`c` is to get `m`": `m` was sent on `c`'s topic by a client with another name (`Hub.run` ranges over
    `h.clients[message.sender.topic]` and skips `client.name == message.sender.name`) -/
def wantedBy (c : Client) (m : message) : Bool := decide (m.sender.topic = c.topic ∧ m.sender.name ≠ c.name)

theorem wantsTN_absMsg (reg : List Client) (c : Client) (hc : c.name ∈ names reg) (m : message) :
    _root_.Hub.wantsTN c.topic (nameOf reg c.name) (absMsg (nameOf reg) m) = wantedBy c m := by
  have hinj : nameOf reg c.name = nameOf reg m.sender.name ↔ m.sender.name = c.name :=
    ⟨fun e => (nameOf_inj reg _ _ hc e).symm, fun e => by rw [e]⟩
  rw [Bool.eq_iff_iff]
  simp [_root_.Hub.wantsTN, absMsg, wantedBy, hinj, @eq_comm _ c.topic]

theorem inbounds_one_registered {s : Sys} {e : SEv} (hd : StepR s e) {m : message} (hm : m ∈ inbounds [e]) :
    m.sender ∈ s.registered := by
  cases e with
  | inbound m' => rw [List.mem_singleton.1 hm]; exact hd.1
  | _ => cases hm

theorem inbounds_registered (ws : Nat → Go.World) (es : List SEv) (i : Nat) (s : Sys) (hd : DiscRFrom s.registered es) :
    ∀ m ∈ inbounds es, m.sender ∈ (sysRun ws i s es).registered := by
  induction es generalizing i s with
  | nil => intro m hm; cases hm
  | cons e es ih =>
    obtain ⟨h1, h2⟩ := discRFrom_cons s (ws i) e es hd
    intro m hm
    rw [inbounds_cons] at hm
    rcases List.mem_append.1 hm with hm | hm
    · exact (registered_prefix ws (e :: es) i s).subset (inbounds_one_registered h1 hm)
    · exact ih (i + 1) _ h2 m hm

theorem drains_sent (n j : Nat) (M : MHub) :
    ((List.replicate j (_root_.Hub.Ev.drain n 0)).foldl _root_.Hub.step M).sent = M.sent := by
  induction j generalizing M with
  | zero => rfl
  | succ j ih => rw [List.replicate_succ, List.foldl_cons, ih]; rfl

theorem absEv_sent (s : Sys) (M : MHub) (hA : Abs s M) (e : SEv) (hd : StepR s e) (hside : SideOk s e) :
    ((absEv s e).foldl _root_.Hub.step M).sent = M.sent ++ (inbounds [e]).map (absMsg (nameOf s.registered)) := by
  cases e with
  | register c | unregister c => simp [absEv, inbounds, _root_.Hub.step]
  | inbound m =>
    simp only [absEv, List.foldl_cons, List.foldl_nil]
    rw [inbound_step_eq s M hA m hd hside]
    rfl
  | drain ch k =>
    cases hfind : owner s.registered ch with
    | none => simp [absEv, hfind, inbounds]
    | some c0 =>
      by_cases hr : c0.canRead = true
      · simp [absEv, hfind, hr, inbounds, _root_.Hub.step]
      · simp [absEv, hfind, hr, inbounds, drains_sent]

/-- **the model's broadcast log is the abstracted list of inbound messages** -/
theorem refine_sent (ws : Nat → Go.World) (hws : ∀ i, (ws i).OrdPOk) (es : List SEv) (i : Nat) (s : Sys) (M : MHub)
    (hA : Abs s M) (hI : Inv s) (hd : DiscRFrom s.registered es) (hside : Side ws i s es) :
    ((absRun ws i s es).foldl _root_.Hub.step M).sent
      = M.sent ++ (inbounds es).map (absMsg (nameOf (sysRun ws i s es).registered)) := by
  induction es generalizing i s M with
  | nil => simp [absRun, inbounds]
  | cons e es ih =>
    obtain ⟨h1, h2⟩ := discRFrom_cons s (ws i) e es hd
    obtain ⟨more, hmore⟩ := registered_prefix ws (e :: es) i s
    have hfin : s.registered ++ more = (sysRun ws (i + 1) (sysStep (ws i) s e) es).registered := hmore
    simp only [sysRun, absRun, List.foldl_append]
    rw [ih (i + 1) _ _ (refine_step (ws i) (hws i) s M hA hI e h1 hside.1)
      (step_inv (ws i) (hws i) s e hI (stepR_stepOk s e h1)) h2 hside.2, absEv_sent s M hA e h1 hside.1,
      inbounds_cons e es, List.map_append, List.append_assoc]
    congr 2
    apply List.map_congr_left
    intro m hm
    rw [← hfin]
    exact (absMsg_stable s.registered more m (mem_names (inbounds_one_registered h1 hm))).symm

/-- **stream integrity from the moment of joining, from related states**: see `translated_queue_is_suffix_of_wanted` -/
theorem joined_queue (ws : Nat → Go.World) (hws : ∀ i, (ws i).OrdPOk) (post : List SEv) (i : Nat) (s1 : Sys) (M1 : MHub)
    (hA1 : Abs s1 M1) (hI1 : Inv s1) (hM1 : _root_.Hub.HubInv M1) (c : Client)
    (hd : DiscRFrom s1.registered (.register c :: post)) (hside : Side ws i s1 (.register c :: post))
    (hf : filed (sysRun ws i s1 (.register c :: post)).h c.topic c) :
    ∃ drained : List MMsg,
      drained ++ ((sysRun ws i s1 (.register c :: post)).q c.send).map
          (absMsg (nameOf (sysRun ws i s1 (.register c :: post)).registered))
        = ((inbounds post).filter (wantedBy c)).map (absMsg (nameOf (sysRun ws i s1 (.register c :: post)).registered)) := by
  obtain ⟨h1, h2⟩ := discRFrom_cons s1 (ws i) (.register c) post hd
  have hA2 := refine_register (ws i) s1 M1 hA1 hI1 c h1
  have hI2 := step_inv (ws i) (hws i) s1 (.register c) hI1 h1.1
  have hM2 := _root_.Hub.step_inv M1 (.register c.topic c.bookingID c.canRead c.canWrite (s1.cap c.send)) hM1
  have hA := refine_from ws hws post (i + 1) _ _ hA2 hI2 h2 hside.2
  have hsent := refine_sent ws hws post (i + 1) _ _ hA2 hI2 h2 hside.2
  have hM := _root_.Hub.foldl_inv (absRun ws (i + 1) (sysStep (ws i) s1 (.register c)) post) _ hM2
  obtain ⟨more, hmore⟩ : s1.registered ++ [c] <+: _ :=
    registered_prefix ws post (i + 1) (sysStep (ws i) s1 (.register c))
  rw [show sysRun ws i s1 (.register c :: post) = sysRun ws (i + 1) (sysStep (ws i) s1 (.register c)) post
    from rfl] at hf ⊢
  -- the two end states get names, so that no rewrite below has to traverse the runs
  generalize sysRun ws (i + 1) (sysStep (ws i) s1 (.register c)) post = s at hf hA hsent hmore ⊢
  generalize hMe : (absRun ws (i + 1) (sysStep (ws i) s1 (.register c)) post).foldl _root_.Hub.step _ = M at hA hsent hM
  replace hsent : M.sent = M1.sent ++ _ := hsent -- a registration leaves `sent` alone
  -- the member standing for `c` is named `M1.next` …
  obtain ⟨mc, hmc, ht, hco⟩ := hA.member hf
  have hcm : c ∈ s1.registered ++ [c] := List.mem_append_right _ List.mem_cons_self
  have hname : mc.name = M1.next := by
    rw [hco.name, ← hmore, nameOf_append_of_mem _ more _ (mem_names hcm), nameOf_append_new _ _ (not_mem_names h1.2),
      hA1.next]
  -- … so it is the member this registration created (older ones are named below `M1.next`), and it joined then
  obtain ⟨mc2, hmc2, hn2, hj2⟩ := _root_.Hub.foldl_members_old _ _ mc (hMe ▸ hmc) (hname ▸ Nat.lt_succ_self M1.next)
  have hjoin : mc.joinedAt = M1.sent.length := by
    rcases List.mem_append.1 (show mc2 ∈ M1.members ++ [_] from hmc2) with h | h
    · exact absurd (hn2.trans hname) (Nat.ne_of_lt (hM1.good mc2 h).fresh)
    · rw [← hj2, List.mem_singleton.1 h]
  have hg := hM.good mc hmc
  obtain ⟨pre, hpre⟩ := hg.suffix
  refine ⟨pre, ?_⟩
  rw [← (hA.queue c mc hmc hco).1, hpre, hg.exact, hjoin, hsent, List.drop_left, List.filter_map, ht, hco.name]
  exact congrArg _ (List.filter_congr fun m _ =>
    wantsTN_absMsg s.registered c (mem_names (hmore ▸ List.mem_append_left more hcm)) m)

/-! when payload bytes and message types are non-negative, the abstraction of messages loses nothing -/

/-- websocket payload bytes (0…255) and message types (1 text, 2 binary) are non-negative -/
def NonNeg (m : message) : Prop := 0 ≤ m.mt ∧ ∀ x ∈ m.data, 0 ≤ x

theorem absMsg_inj (reg : List Client) (hnd : (names reg).Nodup) (m1 m2 : message) (h1 : m1.sender ∈ reg)
    (h2 : m2.sender ∈ reg) (n1 : NonNeg m1) (n2 : NonNeg m2) (e : absMsg (nameOf reg) m1 = absMsg (nameOf reg) m2) :
    m1 = m2 := by
  obtain ⟨s1, t1, d1⟩ := m1
  obtain ⟨s2, t2, d2⟩ := m2
  simp only [absMsg, _root_.Hub.Msg.mk.injEq] at e
  obtain ⟨e1, _, e3, e4⟩ := e
  have es : s1 = s2 := client_of_nameOf reg hnd s1 s2 h1 h2 e1
  have et : t1 = t2 := toNat_inj n1.1 n2.1 e4
  have ed : d1 = d2 := map_inj_on Int.toNat d1 d2 e3 (fun a ha b hb => toNat_inj (n1.2 a ha) (n2.2 b hb))
  rw [es, et, ed]

theorem inbounds_append (a b : List SEv) : inbounds (a ++ b) = inbounds a ++ inbounds b := by
  induction a with
  | nil => rfl
  | cons e a ih => rw [List.cons_append, inbounds_cons, ih, inbounds_cons e a, List.append_assoc]

theorem queued_step (o : Go.World) (s : Sys) (e : SEv) (ch : Go.Chan) :
    ∀ m ∈ (sysStep o s e).q ch, m ∈ s.q ch ∨ m ∈ inbounds [e] := by
  intro m h
  cases e with
  | inbound m' =>
    have h' : m ∈ enqueue s.q (Hub.run_broadcast (worldOf o s) s.h m').2.2 ch := h
    rw [enqueue_apply, broadcast_out_sentTo] at h'
    refine (List.mem_append.1 h').imp_right fun h' => ?_
    obtain ⟨p, hp, rfl⟩ := List.mem_map.1 h'
    obtain ⟨c, _, rfl⟩ := List.mem_map.1 (List.mem_filter.1 hp).1
    exact List.mem_cons_self
  | drain ch' k =>
    have h' : m ∈ (if ch = ch' then (s.q ch).drop (k + 1) else s.q ch) := h
    split at h'
    · exact Or.inl (List.mem_of_mem_drop h')
    · exact Or.inl h'
  | _ => exact Or.inl h

theorem queued_inbound (ws : Nat → Go.World) (es : List SEv) (i : Nat) (s : Sys) (ch : Go.Chan) :
    ∀ m ∈ (sysRun ws i s es).q ch, m ∈ s.q ch ∨ m ∈ inbounds es := by
  induction es generalizing i s with
  | nil => exact fun m hm => Or.inl hm
  | cons e es ih =>
    intro m hm
    rw [inbounds_cons, List.mem_append, ← or_assoc]
    exact (ih (i + 1) _ m hm).imp_left (queued_step (ws i) s e ch m)

/-! ## transfer: the model's theorems, for the translated system

Every statement below is about `sysRun ws 0 (init cap) es` — the TRANSLATED `run_register / run_unregister /
run_broadcast` composed with the channel queues — and comes from the refinement and `Hub.run_inv`, whose clauses
`Hub.Good.own`, `.suffix`, `.exact` are what `Hub.isolation`, `Hub.no_echo`, `Hub.delivered_exact` state. -/

section Transfer
variable (ws : Nat → Go.World) (hws : ∀ i, (ws i).OrdPOk) (cap : Go.Chan → Nat) (es : List SEv) (hd : DiscR es)
  (hside : Side ws 0 (init cap) es)
include hws hd hside

/-- a filed client has a member in some run of the model: with the model's invariant `Hub.Good` for it, the client's
    topic and capacity, and as its queue what the client's channel holds -/
theorem filed_member (t : String) (c : Client) (hf : filed (sysRun ws 0 (init cap) es).h t c) :
    ∃ evs mc, mc ∈ (_root_.Hub.run evs).members ∧ _root_.Hub.Good (_root_.Hub.run evs).sent (_root_.Hub.run evs).next mc ∧
      mc.topic = c.topic ∧ Corr (nameOf (sysRun ws 0 (init cap) es).registered) (sysRun ws 0 (init cap) es).h c mc ∧
      mc.cap = cap c.send ∧
      mc.queue = ((sysRun ws 0 (init cap) es).q c.send).map (absMsg (nameOf (sysRun ws 0 (init cap) es).registered)) := by
  obtain ⟨evs, hA⟩ := refine_run ws hws cap es hd hside
  have hI := e2e_inv ws hws cap es (discRFrom_disc [] es hd)
  obtain ⟨mc, hmc, ht, hco⟩ := hA.member hf
  obtain ⟨e1, e2⟩ := hA.queue c mc hmc hco
  exact ⟨evs, mc, hmc, (_root_.Hub.run_inv evs).good mc hmc, ht.trans (hI.core.wf.own t c hf).symm, hco,
    by rw [e2, sysRun_cap]; rfl, e1⟩

/-- **isolation and no echo, for what is sitting in the queues** (from `Hub.Good.own`, which is what `Hub.isolation`
    and `Hub.no_echo` state): every message queued for a filed client was sent on the client's own topic by a client
    with another name -/
theorem translated_isolation_no_echo (t : String) (c : Client) (hf : filed (sysRun ws 0 (init cap) es).h t c)
    (m : message) (hm : m ∈ (sysRun ws 0 (init cap) es).q c.send) :
    m.sender.topic = c.topic ∧ m.sender.name ≠ c.name := by
  obtain ⟨evs, mc, _, hg, ht, hco, _, hq⟩ := filed_member ws hws cap es hd hside t c hf
  obtain ⟨pre, hpre⟩ := hg.suffix
  -- what is queued was delivered, and `Hub.Good.own` speaks of everything delivered
  obtain ⟨h1, h2⟩ := hg.own (absMsg (nameOf (sysRun ws 0 (init cap) es).registered) m)
    (by rw [← hpre, hq]; exact List.mem_append_right _ (List.mem_map.2 ⟨m, hm, rfl⟩))
  exact ⟨h1.trans ht, fun e => h2 (by rw [hco.name, ← e]; rfl)⟩

/-- **every filed client has its model member** in a model history: same topic, same capabilities, the capacity of
    its channel, and a queue exactly as long as the channel's content (so the model's `hasRoom` test IS the translated
    non-blocking send) -/
theorem translated_member_queue (t : String) (c : Client) (hf : filed (sysRun ws 0 (init cap) es).h t c) :
    ∃ evs mc, mc ∈ (_root_.Hub.run evs).members ∧ mc.topic = c.topic ∧ mc.canRead = c.canRead ∧ mc.canWrite = c.canWrite ∧
      mc.cap = cap c.send ∧ mc.queue.length = ((sysRun ws 0 (init cap) es).q c.send).length := by
  obtain ⟨evs, mc, hmc, _, ht, hco, hcap, hq⟩ := filed_member ws hws cap es hd hside t c hf
  exact ⟨evs, mc, hmc, ht, hco.canRead, hco.canWrite, hcap, by rw [hq, List.length_map]⟩

/-- **filed clients have pairwise different names** (`Sim.inj`, which the refinement maintains at every
    registration from the model's fresh-name counter): two clients filed anywhere in the translated hub with the same
    `name` are the same client object -/
theorem translated_names_unique (t t' : String) (c c' : Client) (hf : filed (sysRun ws 0 (init cap) es).h t c)
    (hf' : filed (sysRun ws 0 (init cap) es).h t' c') (e : c.name = c'.name) : c = c' := by
  obtain ⟨evs, hA⟩ := refine_run ws hws cap es hd hside
  exact hA.sim.inj t t' c c' hf hf' (by rw [e])

end Transfer

/-- **stream integrity (C05) for the translated code, over all histories** (from `Hub.delivered_exact` and the
    model invariant `Hub.Good`): take any history in which `c` registers at some point (`pre ++ register c :: post`)
    and is still filed at the end. Then the content of `c`'s send channel is a tail of the messages the hub took from
    its broadcast channel SINCE `c` REGISTERED that were sent on `c`'s topic by a client with another name — in hub
    order: nothing skipped, nothing duplicated, nothing reordered, nothing foreign. (`drained` is whatever precedes
    that tail; the statement does not tie it to the `drain` events.) Stated on abstracted messages (sender as
    registration index, topic, payload, message type). -/
theorem translated_queue_is_suffix_of_wanted (ws : Nat → Go.World) (hws : ∀ i, (ws i).OrdPOk) (cap : Go.Chan → Nat)
    (pre post : List SEv) (c : Client) (hd : DiscR (pre ++ .register c :: post))
    (hside : Side ws 0 (init cap) (pre ++ .register c :: post))
    (hf : filed (sysRun ws 0 (init cap) (pre ++ .register c :: post)).h c.topic c) :
    ∃ drained : List MMsg,
      drained ++ ((sysRun ws 0 (init cap) (pre ++ .register c :: post)).q c.send).map
          (absMsg (nameOf (sysRun ws 0 (init cap) (pre ++ .register c :: post)).registered))
        = ((inbounds post).filter (wantedBy c)).map
          (absMsg (nameOf (sysRun ws 0 (init cap) (pre ++ .register c :: post)).registered)) := by
  obtain ⟨hA1, hI1, d2, s2⟩ :=
    refine_prefix ws hws pre (.register c :: post) 0 (init cap) {} (abs_init cap) (inv_init cap) hd hside
  have hM1 := _root_.Hub.foldl_inv (absRun ws 0 (init cap) pre) {} _root_.Hub.inv_init
  rw [sysRun_append] at hf ⊢
  exact joined_queue ws hws post (0 + pre.length) _ _ hA1 hI1 hM1 c d2 s2 hf

/-- … and on the messages themselves, when payload bytes and message types are non-negative (as they are: bytes,
    and websocket message types 1 and 2): the queue IS a tail of the wanted messages since `c` registered -/
theorem translated_queue_exact (ws : Nat → Go.World) (hws : ∀ i, (ws i).OrdPOk) (cap : Go.Chan → Nat)
    (pre post : List SEv) (c : Client) (hd : DiscR (pre ++ .register c :: post))
    (hside : Side ws 0 (init cap) (pre ++ .register c :: post))
    (hnn : ∀ m ∈ inbounds (pre ++ .register c :: post), NonNeg m)
    (hf : filed (sysRun ws 0 (init cap) (pre ++ .register c :: post)).h c.topic c) :
    ∃ k, (sysRun ws 0 (init cap) (pre ++ .register c :: post)).q c.send
      = ((inbounds post).filter (wantedBy c)).drop k := by
  obtain ⟨D, hD⟩ := translated_queue_is_suffix_of_wanted ws hws cap pre post c hd hside hf
  obtain ⟨evs, hA⟩ := refine_run ws hws cap _ hd hside
  have hreg := inbounds_registered ws (pre ++ .register c :: post) 0 (init cap) hd
  have h1 := congrArg (List.drop D.length) hD
  rw [List.drop_left, ← List.map_drop] at h1
  -- on the messages of this history (registered senders, non-negative bytes) the abstraction is injective
  refine ⟨D.length, map_inj_on _ _ _ h1 fun a ha b hb => ?_⟩
  have ha' := (queued_inbound ws _ 0 (init cap) c.send a ha).resolve_left (fun h => nomatch h)
  have hb' : b ∈ inbounds (pre ++ .register c :: post) := by
    rw [inbounds_append, inbounds_cons]
    exact List.mem_append_right _ (List.mem_append_right _ (List.mem_filter.1 (List.mem_of_mem_drop hb)).1)
  exact absMsg_inj _ hA.names_nodup a b (hreg a ha') (hreg b hb') (hnn a ha') (hnn b hb')

/-! ## a concrete history: the hypotheses are satisfiable, the witness is computed, the corollaries say something -/

instance (m : message) : Decidable (NonNeg m) := by unfold NonNeg; infer_instance

deriving instance DecidableEq for _root_.Hub.Ev

namespace Demo
open TieHubE2E.Demo (ws ws_ok cap)

def a : Client :=
  { (default : Client) with
    name := "a", topic := "t", send := 1, bookingID := "bk", denied := 11, addr__ := 1
    canRead := true, canWrite := true }
def b : Client :=
  { (default : Client) with
    name := "b", topic := "t", send := 2, bookingID := "bk", denied := 12, addr__ := 2
    canRead := true, canWrite := true }
def c : Client :=
  { (default : Client) with
    name := "c", topic := "u", send := 3, bookingID := "bk", denied := 13, addr__ := 3
    canRead := true, canWrite := true }
/-- may write, may not read: its write pump discards -/
def d : Client :=
  { (default : Client) with
    name := "d", topic := "t", send := 4, bookingID := "bk", denied := 14, addr__ := 4
    canRead := false, canWrite := true }
/-- joins late; may read only -/
def e : Client :=
  { (default : Client) with
    name := "e", topic := "t", send := 5, bookingID := "bk", denied := 15, addr__ := 5
    canRead := true, canWrite := false }

def m1 : message := { sender := b, mt := 1, data := [1] }
def m2 : message := { sender := b, mt := 1, data := [2] }
def m3 : message := { sender := d, mt := 1, data := [3] }
def m4 : message := { sender := c, mt := 2, data := [4] }
def m5 : message := { sender := d, mt := 1, data := [5] }
def m6 : message := { sender := d, mt := 1, data := [6, 6] }

/-- `a`, `b`, `d` join `t`, `c` joins `u`. `b` says `m1` (to `a`, `d`), then `m2`: `a`'s queue (capacity 1) is full, `a` is
    evicted; `d` gets it. `d`'s pump discards both. `d` says `m3` (to `b`). `b` is unregistered twice; its pump runs once
    more; `c` says `m4` (nobody else on `u`); a pump on a channel nobody owns; `c` and the long-gone `a` are unregistered. -/
def pre : List SEv :=
  [.register a, .register b, .register c, .register d, .inbound m1, .inbound m2, .drain 4 1, .inbound m3,
   .unregister b, .unregister b, .drain 2 0, .inbound m4, .drain 9 0, .unregister c, .unregister a]

/-- after `e` has joined, `d` says `m5` and `m6`; `e`'s pump takes one -/
def post : List SEv := [.inbound m5, .inbound m6, .drain 5 0]

def hist : List SEv := pre ++ .register e :: post

def fin : Sys := sysRun ws 0 (init cap) hist

/-- evaluated once, used by every instance below -/
theorem hist_disc : DiscR hist := by decide +kernel
theorem hist_side : Side ws 0 (init cap) hist := by decide +kernel

example : DiscR hist := hist_disc
example : Side ws 0 (init cap) hist := hist_side

/-- the model history, computed event for event (the non-reader's `drain 4 1` is two model drains; the drain of the
    unowned channel 9 is none) -/
def mevs : List _root_.Hub.Ev :=
  [.register "t" "bk" true true 1, .register "t" "bk" true true 2, .register "u" "bk" true true 2,
   .register "t" "bk" false true 2, .inbound 1 [1] 1, .inbound 1 [2] 1, .drain 3 0, .drain 3 0, .inbound 3 [3] 1,
   .unregister 1, .unregister 1, .drain 1 0, .inbound 2 [4] 2, .unregister 2, .unregister 0,
   .register "t" "bk" true false 2, .inbound 3 [5] 1, .inbound 3 [6, 6] 1, .drain 4 0]

theorem absRun_hist : absRun ws 0 (init cap) hist = mevs := by decide +kernel

/-- the refinement theorem applied: the end state of the translated system is abstracted by the model's -/
theorem fin_abs : Abs fin (_root_.Hub.run mevs) :=
  absRun_hist ▸ refine_run_witness ws ws_ok cap hist hist_disc hist_side

/-- both end states, side by side -/
example : filed fin.h "t" d ∧ filed fin.h "t" e ∧ ¬ filed fin.h "t" a ∧ ¬ filed fin.h "t" b ∧ ¬ filed fin.h "u" c := by decide +kernel
example : fin.q 4 = [] ∧ fin.q 5 = [m6] := by decide +kernel
example : (_root_.Hub.run mevs).members.map (fun x => (x.name, x.topic, x.cap)) = [(3, "t", 2), (4, "t", 2)] := by decide +kernel
example : (_root_.Hub.run mevs).members.map (fun x => (x.queue.map (·.data), _root_.Hub.frames x))
    = [([], []), ([[6, 6]], [[5]])] := by decide +kernel
example : (_root_.Hub.run mevs).gone.map (·.name) = [0, 1, 2] := by decide +kernel

/-- evaluated once, as `hist_disc` -/
theorem fin_e : filed fin.h "t" e ∧ fin.q 5 = [m6] := by decide +kernel

example : m6.sender.topic = e.topic ∧ m6.sender.name ≠ e.name :=
  have hq : (sysRun ws 0 (init cap) hist).q e.send = [m6] := fin_e.2
  translated_isolation_no_echo ws ws_ok cap hist hist_disc hist_side "t" e fin_e.1 m6 (hq ▸ List.mem_singleton_self m6)

example : ∃ k, fin.q e.send = ((inbounds post).filter (wantedBy e)).drop k :=
  translated_queue_exact ws ws_ok cap pre post e hist_disc hist_side (by decide +kernel) fin_e.1

example : (inbounds post).filter (wantedBy e) = [m5, m6] ∧ fin.q e.send = [m5, m6].drop 1 := ⟨by decide, fin_e.2⟩

example : ∃ drained : List MMsg, drained ++ (fin.q e.send).map (absMsg (nameOf fin.registered))
    = ((inbounds post).filter (wantedBy e)).map (absMsg (nameOf fin.registered)) :=
  translated_queue_is_suffix_of_wanted ws ws_ok cap pre post e hist_disc hist_side fin_e.1

example : ∀ x y : Client, filed fin.h "t" x → filed fin.h "t" y → x.name = y.name → x = y :=
  fun x y hx hy => translated_names_unique ws ws_ok cap hist hist_disc hist_side "t" "t" x y hx hy

/-- **the side condition matters**: `a` is evicted (its queue is full at `m2`) and says `m7` afterwards. The translated
    `run_broadcast` serves `m7` all the same (`b` gets it; `d`, whose queue is full, is evicted); the model's `inbound`
    from a name that is no longer a member does nothing. The discipline `DiscR` holds, `Side` does not, and the two
    end states differ. -/
def m7 : message := { sender := a, mt := 1, data := [7] }
def bad : List SEv := [.register a, .register b, .register d, .inbound m1, .inbound m2, .inbound m7]

example : DiscR bad := by decide
example : ¬ Side ws 0 (init cap) bad := by decide +kernel
example : ((sysRun ws 0 (init cap) bad).q 2).map (·.data) = [[7]] := by decide +kernel
example : (_root_.Hub.run (absRun ws 0 (init cap) bad)).members.map (fun x => (x.name, x.queue.map (·.data)))
    = [(1, []), (2, [[1], [2]])] := by decide +kernel

end Demo

end TieHubRefine
