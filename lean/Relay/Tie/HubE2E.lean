import Relay.Tie.Hub
import Relay.Lemmas.SendQueues

/-!
# End to end: the TRANSLATED hub event loop composed with its environment, over whole histories

`Relay/Tie/Hub.lean` proves per-step facts about `Gen.crossbar.Hub.run_register / run_unregister / run_broadcast`
(the three `select` cases of `Hub.run`) for EVERY world. Here the world is not arbitrary: each client's `send` is a
bounded buffered Go channel, the hub's non-blocking send goes through exactly when the buffer has room, a write pump
takes messages off it, `remove` closes it. In Go, sending on a closed channel panics and closing a closed channel
panics, so `e2e_no_send_on_closed` and `e2e_no_double_close` are crash-freedom properties of the real program.

The `e2e_*` theorems hold for every history satisfying the caller discipline `Disc`, every family of iteration orders
that are permutations, every capacity assignment. The only part of the system that is not translated code is the
environment written out in `sysStep` (queues, the ghost logs) and the ASSUMPTION `Disc` about `serveWs`.
The examples at the end show that the statements are not vacuous and that without `Disc` the ghost flag
`sentAfterClose` does become `true`.
-/

namespace TieHubE2E
open Gen.crossbar TieHub

structure Sys where
  h : Hub
  /-- contents of each send queue, oldest first -/
  q : Go.Chan → List message
  /-- capacity of each send queue (`make(chan message, cap)`) -/
  cap : Go.Chan → Nat
  /-- ghost: every `close(ch)` the hub performed, in order -/
  closedLog : List Go.Chan
  /-- ghost: every successful send the hub performed, in order -/
  sendLog : List (Go.Chan × message)
  /-- ghost: did some send hit a channel that was already in `closedLog`? (the Go program would have panicked) -/
  sentAfterClose : Bool
  /-- ghost: every client ever registered, in order -/
  registered : List Client

/-- what happens to the system: the three channels of `Hub.run`, and a write pump taking messages off its queue -/
inductive SEv where
  | register (c : Client)
  | unregister (c : Client)
  /-- the hub takes `m` from its broadcast channel -/
  | inbound (m : message)
  /-- the write pump behind `ch` takes `k+1` messages off the queue -/
  | drain (ch : Go.Chan) (k : Nat)

def init (cap : Go.Chan → Nat) : Sys :=
  { h := default, q := fun _ => [], cap := cap, closedLog := [], sendLog := [], sentAfterClose := false, registered := [] }

/-- the world of a step: the iteration order is the one of `o` (arbitrary), but whether a non-blocking send goes
    through is not — it does exactly when the buffer has room -/
def worldOf (o : Go.World) (s : Sys) : Go.World :=
  { o with ready := fun ch => decide ((s.q ch).length < s.cap ch) }

theorem worldOf_ok (o : Go.World) (s : Sys) (ho : o.OrdPOk) : (worldOf o s).OrdPOk := ho

@[simp] theorem worldOf_ready (o : Go.World) (s : Sys) (ch : Go.Chan) :
    (worldOf o s).ready ch = decide ((s.q ch).length < s.cap ch) := rfl

/-- `ch <- m` that went through. `push` and `enqueue` are `SendQ`'s at `message`, by unfolding, so its lemmas apply
    as they stand -/
def push (q : Go.Chan → List message) (ch : Go.Chan) (m : message) : Go.Chan → List message :=
  fun ch' => if ch' = ch then q ch' ++ [m] else q ch'

def enqueue (q : Go.Chan → List message) (out : List (Go.Chan × message)) : Go.Chan → List message :=
  out.foldl (fun q p => push q p.1 p.2) q

/-- `register`, `unregister`, `inbound` run the TRANSLATED case bodies of `Hub.run` -/
def sysStep (o : Go.World) (s : Sys) : SEv → Sys
  | .register c =>
    { s with h := Hub.run_register (worldOf o s) s.h c, registered := s.registered ++ [c] }
  | .unregister c =>
    let r := Hub.run_unregister (worldOf o s) s.h c
    { s with h := r.1, closedLog := s.closedLog ++ r.2 }
  | .inbound m =>
    let r := Hub.run_broadcast (worldOf o s) s.h m
    { s with
      h := r.1
      q := enqueue s.q r.2.2
      sendLog := s.sendLog ++ r.2.2
      -- the sends of a broadcast all happen before its evictions: "closed" means closed before this step
      sentAfterClose := s.sentAfterClose || r.2.2.any (fun p => s.closedLog.contains p.1)
      closedLog := s.closedLog ++ r.2.1 }
  | .drain ch k =>
    { s with q := fun ch' => if ch' = ch then (s.q ch').drop (k + 1) else s.q ch' }

/-- what the hub sends in one step -/
def stepOut (o : Go.World) (s : Sys) : SEv → List (Go.Chan × message)
  | .inbound m => (Hub.run_broadcast (worldOf o s) s.h m).2.2
  | _ => []

/-- a history: the i-th event runs with the iteration orders of `ws i` -/
def sysRun (ws : Nat → Go.World) : Nat → Sys → List SEv → Sys
  | _, s, [] => s
  | i, s, e :: es => sysRun ws (i + 1) (sysStep (ws i) s e) es

/-- the per-step out logs of a history -/
def outs (ws : Nat → Go.World) : Nat → Sys → List SEv → List (List (Go.Chan × message))
  | _, _, [] => []
  | i, s, e :: es => stepOut (ws i) s e :: outs ws (i + 1) (sysStep (ws i) s e) es

/-- `c` is a new client object (its address: a fresh `&Client{…}`) with a new `send` channel (a fresh
    `make(chan message, n)`) -/
def freshFor (prev : List Client) (c : Client) : Prop :=
  c ∉ prev ∧ ∀ c' ∈ prev, c'.send ≠ c.send ∧ c'.addr__ ≠ c.addr__

instance (prev : List Client) (c : Client) : Decidable (freshFor prev c) := by
  unfold freshFor; infer_instance

/-- `Disc`, given the clients registered so far -/
def DiscFrom : List Client → List SEv → Prop
  | _, [] => True
  | prev, .register c :: es => freshFor prev c ∧ DiscFrom (prev ++ [c]) es
  | prev, .unregister _ :: es => DiscFrom prev es
  | prev, .inbound _ :: es => DiscFrom prev es
  | prev, .drain _ _ :: es => DiscFrom prev es

/-- **ASSUMPTION about the caller** (`serveWs` creates a new `Client` object with a new `send` channel for each
    connection and registers it once): in the history, every `register c` registers a client that was not
    registered before, whose `send` channel and whose address differ from those of every client registered before.
    Nothing is assumed about `unregister` (any client, filed or not, registered or not, repeatedly), `inbound`
    (any sender) or `drain`. -/
def Disc (es : List SEv) : Prop := DiscFrom [] es

instance DiscFrom.dec : (prev : List Client) → (es : List SEv) → Decidable (DiscFrom prev es)
  | _, [] => isTrue trivial
  | prev, .register c :: es =>
    have := DiscFrom.dec (prev ++ [c]) es
    (inferInstance : Decidable (freshFor prev c ∧ DiscFrom (prev ++ [c]) es))
  | prev, .unregister _ :: es => DiscFrom.dec prev es
  | prev, .inbound _ :: es => DiscFrom.dec prev es
  | prev, .drain _ _ :: es => DiscFrom.dec prev es

instance (es : List SEv) : Decidable (Disc es) := DiscFrom.dec [] es

/-- the discipline for one step from `s` -/
def StepOk (s : Sys) : SEv → Prop
  | .register c => freshFor s.registered c
  | _ => True

theorem discFrom_append (prev : List Client) (pre post : List SEv) (h : DiscFrom prev (pre ++ post)) :
    DiscFrom prev pre := by
  induction pre generalizing prev with
  | nil => trivial
  | cons e pre ih =>
    cases e with
    | register c => exact ⟨h.1, ih _ h.2⟩
    | _ => exact ih _ h

/-- every state a disciplined history passes through is the end state of a disciplined history, so the end-to-end
    theorems below hold in every reachable state -/
theorem disc_prefix (pre post : List SEv) (h : Disc (pre ++ post)) : Disc pre := discFrom_append [] pre post h

theorem discFrom_cons (s : Sys) (o : Go.World) (e : SEv) (es : List SEv) (h : DiscFrom s.registered (e :: es)) :
    StepOk s e ∧ DiscFrom (sysStep o s e).registered es := by
  cases e with
  | register c => exact h
  | _ => exact ⟨trivial, h⟩

theorem enqueue_apply (q : Go.Chan → List message) (out : List (Go.Chan × message)) (ch : Go.Chan) :
    enqueue q out ch = q ch ++ (out.filter (fun p => p.1 == ch)).map (·.2) :=
  SendQ.enqueue_apply q out ch

/-- the part of the invariant that relates the hub, the clients registered so far and the closes so far -/
structure Core (h : Hub) (reg : List Client) (cl : List Go.Chan) : Prop where
  wf : WF h
  filed_reg : ∀ t c, filed h t c → c ∈ reg
  reg_nodup : reg.Nodup
  send_inj : ∀ a ∈ reg, ∀ b ∈ reg, a.send = b.send → a = b
  addr_inj : ∀ a ∈ reg, ∀ b ∈ reg, a.addr__ = b.addr__ → a = b
  /-- the closed channels are exactly the send channels of the registered clients that are no longer filed -/
  closed_iff : ∀ ch, ch ∈ cl ↔ ∃ c ∈ reg, c.send = ch ∧ ¬ filed h c.topic c
  closed_nodup : cl.Nodup

theorem Core.filed_not_closed {h : Hub} {reg : List Client} {cl : List Go.Chan} (hc : Core h reg cl)
    {t : String} {c : Client} (hf : filed h t c) : c.send ∉ cl := by
  intro hmem
  obtain ⟨c', hr', e, hnf⟩ := (hc.closed_iff _).1 hmem
  cases hc.send_inj c' hr' c (hc.filed_reg t c hf) e
  exact hnf (hc.wf.own t c hf ▸ hf)

theorem core_register (w : Go.World) {h : Hub} {reg : List Client} {cl : List Go.Chan} (hc : Core h reg cl)
    (c : Client) (hfresh : freshFor reg c) : Core (Hub.run_register w h c) (reg ++ [c]) cl where
  wf := register_wf w h c hc.wf
  filed_reg := by
    intro t c' hf
    rcases (register_filed w h c t c').1 hf with e | ⟨_, e⟩
    · exact List.mem_append_left _ (hc.filed_reg t c' e)
    · exact e ▸ List.mem_concat_self
  reg_nodup := SendQ.nodup_snoc reg c hc.reg_nodup hfresh.1
  send_inj := SendQ.injOn_snoc (·.send) reg c hc.send_inj (fun a ha => (hfresh.2 a ha).1)
  addr_inj := SendQ.injOn_snoc (·.addr__) reg c hc.addr_inj (fun a ha => (hfresh.2 a ha).2)
  closed_iff := fun ch => (hc.closed_iff ch).trans <| exists_congr fun c' => by
    -- the newcomer was not registered before and is filed now; for everybody else nothing changes
    by_cases e : c' = c
    · subst e; simp [hfresh.1, register_filed]
    · simp [e, register_filed]
  closed_nodup := hc.closed_nodup

/-- what `unregister` (`cs` is `[c]` or `[]`) and the evictions of a broadcast (`cs` is `slow w h m`) share: the
    pairwise different, filed clients `cs` leave the hub and their channels are closed -/
theorem core_close {h h' : Hub} {reg : List Client} {cl : List Go.Chan} (hc : Core h reg cl) (cs : List Client)
    (hnd : cs.Nodup) (hfs : ∀ c ∈ cs, filed h c.topic c) (hwf : WF h')
    (hfiled : ∀ t c, filed h' t c ↔ filed h t c ∧ ¬ (c ∈ cs ∧ t = c.topic)) :
    Core h' reg (cl ++ cs.map (·.send)) where
  wf := hwf
  filed_reg := fun t c hf => hc.filed_reg t c ((hfiled t c).1 hf).1
  reg_nodup := hc.reg_nodup
  send_inj := hc.send_inj
  addr_inj := hc.addr_inj
  closed_iff := fun ch => by
    have hnot : ∀ c, ¬ filed h' c.topic c ↔ ¬ filed h c.topic c ∨ c ∈ cs := fun c => by
      rw [hfiled, and_iff_left (rfl : c.topic = c.topic), Classical.not_and_iff_not_or_not, Classical.not_not]
    rw [List.mem_append, hc.closed_iff, List.mem_map]
    constructor
    · rintro (⟨c, hr, e, hnf⟩ | ⟨c, hcs, e⟩)
      · exact ⟨c, hr, e, (hnot c).2 (Or.inl hnf)⟩
      · exact ⟨c, hc.filed_reg _ c (hfs c hcs), e, (hnot c).2 (Or.inr hcs)⟩
    · rintro ⟨c, hr, e, hnf⟩
      rcases (hnot c).1 hnf with hf | hcs
      · exact Or.inl ⟨c, hr, e, hf⟩
      · exact Or.inr ⟨c, hcs, e⟩
  closed_nodup := by
    rw [List.nodup_append]
    refine ⟨hc.closed_nodup, ?_, ?_⟩
    · exact SendQ.nodup_map_of_injOn (·.send) hnd (fun a ha => hc.filed_reg _ a (hfs a ha)) hc.send_inj
    · intro a ha b hb e
      obtain ⟨c, hcs, e'⟩ := List.mem_map.1 hb
      exact hc.filed_not_closed (hfs c hcs) (e' ▸ e ▸ ha)

theorem core_unregister (w : Go.World) {h : Hub} {reg : List Client} {cl : List Go.Chan} (hc : Core h reg cl)
    (c : Client) : Core (Hub.run_unregister w h c).1 reg (cl ++ (Hub.run_unregister w h c).2) := by
  rw [unregister_closes, unregister_eq]
  by_cases hf : filed h c.topic c
  · rw [if_pos hf]
    -- one `remove` is the eviction round of `[c]`
    exact core_close hc [c] (List.pairwise_singleton _ c) (fun c' hc' => List.mem_singleton.1 hc' ▸ hf)
      (remove_wf w h c hc.wf) (evict_filed w [c] h [])
  · rw [if_neg hf]
    refine core_close hc [] List.nodup_nil (fun _ hc' => nomatch hc') (remove_wf w h c hc.wf) (fun t c' => ?_)
    rw [remove_filed]
    -- `c` was not filed, so both exclusions are empty
    constructor
    · rintro ⟨h1, _⟩
      exact ⟨h1, fun e => nomatch e.1⟩
    · rintro ⟨h1, _⟩
      exact ⟨h1, fun ⟨et, ec⟩ => hf (et ▸ ec ▸ h1)⟩

theorem core_broadcast (w : Go.World) (hw : w.OrdPOk) {h : Hub} {reg : List Client} {cl : List Go.Chan}
    (hc : Core h reg cl) (m : message) :
    Core (Hub.run_broadcast w h m).1 reg (cl ++ (Hub.run_broadcast w h m).2.1) := by
  rw [broadcast_closes_exactly w hw h hc.wf]
  apply core_close hc (slow w h m) (slow_nodup w hw h hc.wf m) (slow_filed w hw h hc.wf m)
    (broadcast_wf w h m hc.wf)
  intro t c
  rw [broadcast_hub, evict_filed]

theorem broadcast_out_chans_nodup (w : Go.World) (hw : w.OrdPOk) (h : Hub) (reg : List Client) (cl : List Go.Chan)
    (hc : Core h reg cl) (m : message) : ((Hub.run_broadcast w h m).2.2.map (·.1)).Nodup := by
  rw [broadcast_out_sentTo, List.map_map]
  exact SendQ.nodup_map_of_injOn (·.send) (sentTo_nodup w hw h hc.wf m)
    (fun a ha => hc.filed_reg _ a ((mem_sentTo w hw h m a).1 ha).1) hc.send_inj

theorem broadcast_out_spec (w : Go.World) (hw : w.OrdPOk) {h : Hub} {reg : List Client} {cl : List Go.Chan}
    (hc : Core h reg cl) (m : message) (ch : Go.Chan) (m' : message) (hmem : (ch, m') ∈ (Hub.run_broadcast w h m).2.2) :
    m' = m ∧ ch ∉ cl ∧ w.ready ch = true ∧
      ∃ c, filed h c.topic c ∧ c ∈ reg ∧ c.send = ch ∧ c.topic = m.sender.topic ∧ c.name ≠ m.sender.name := by
  obtain ⟨e, c, hf, hn, hr, ech⟩ := broadcast_only_same_topic_not_self w hw h m ch m' hmem
  subst ech
  have ht := hc.wf.own _ c hf
  exact ⟨e, hc.filed_not_closed hf, hr, c, ht ▸ hf, hc.filed_reg _ c hf, rfl, ht, hn⟩

structure Inv (s : Sys) : Prop where
  core : Core s.h s.registered s.closedLog
  noSendOnClosed : s.sentAfterClose = false
  bounded : ∀ ch, (s.q ch).length ≤ s.cap ch
  sends : ∀ ch m, (ch, m) ∈ s.sendLog →
    ∃ c ∈ s.registered, c.send = ch ∧ c.topic = m.sender.topic ∧ c.name ≠ m.sender.name

theorem inv_init (cap : Go.Chan → Nat) : Inv (init cap) where
  core := {
    wf := empty_wf
    filed_reg := fun _ _ hf => by cases hf
    reg_nodup := List.nodup_nil
    send_inj := fun _ ha => by cases ha
    addr_inj := fun _ ha => by cases ha
    closed_iff := fun ch => by simp [init]
    closed_nodup := List.nodup_nil }
  noSendOnClosed := rfl
  bounded := fun _ => Nat.zero_le _
  sends := fun _ _ hm => by cases hm

theorem step_inv (o : Go.World) (ho : o.OrdPOk) (s : Sys) (e : SEv) (hi : Inv s) (hok : StepOk s e) :
    Inv (sysStep o s e) := by
  cases e with
  | register c =>
    exact { hi with
      core := core_register (worldOf o s) hi.core c hok
      sends := fun ch m hm => (hi.sends ch m hm).imp fun _ h => ⟨List.mem_append_left _ h.1, h.2⟩ }
  | unregister c =>
    exact { hi with core := core_unregister (worldOf o s) hi.core c }
  | inbound m =>
    have hw := worldOf_ok o s ho
    have hspec := broadcast_out_spec (worldOf o s) hw hi.core m
    exact {
      core := core_broadcast (worldOf o s) hw hi.core m
      noSendOnClosed := by
        show (s.sentAfterClose || _) = false
        rw [hi.noSendOnClosed, Bool.false_or, List.any_eq_false]
        rintro ⟨ch, m'⟩ hp
        simpa using (hspec ch m' hp).2.1
      bounded := SendQ.enqueue_bounded s.q s.cap _ hi.bounded
        (broadcast_out_chans_nodup (worldOf o s) hw s.h s.registered s.closedLog hi.core m)
        (fun p hp => of_decide_eq_true (hspec p.1 p.2 hp).2.2.1)
      sends := fun ch m' hm => (List.mem_append.1 hm).elim (hi.sends ch m') fun hm => by
        obtain ⟨rfl, _, _, c, _, hc⟩ := hspec ch m' hm
        exact ⟨c, hc⟩ }
  | drain ch k =>
    exact { hi with bounded := fun ch' => Nat.le_trans (SendQ.drain_length_le s.q ch (k + 1) ch') (hi.bounded ch') }

theorem run_inv (ws : Nat → Go.World) (hws : ∀ i, (ws i).OrdPOk) (es : List SEv) (i : Nat) (s : Sys) (hi : Inv s)
    (hd : DiscFrom s.registered es) : Inv (sysRun ws i s es) := by
  induction es generalizing i s with
  | nil => exact hi
  | cons e es ih =>
    obtain ⟨h1, h2⟩ := discFrom_cons s (ws i) e es hd
    exact ih (i + 1) _ (step_inv (ws i) (hws i) s e hi h1) h2

theorem e2e_inv (ws : Nat → Go.World) (hws : ∀ i, (ws i).OrdPOk) (cap : Go.Chan → Nat) (es : List SEv) (hd : Disc es) :
    Inv (sysRun ws 0 (init cap) es) :=
  run_inv ws hws es 0 (init cap) (inv_init cap) hd

theorem sysRun_append (ws : Nat → Go.World) (pre post : List SEv) (i : Nat) (s : Sys) :
    sysRun ws i s (pre ++ post) = sysRun ws (i + pre.length) (sysRun ws i s pre) post := by
  induction pre generalizing i s with
  | nil => rfl
  | cons e pre ih =>
    rw [List.length_cons, ← Nat.add_assoc, Nat.add_right_comm]
    exact ih (i + 1) _

theorem sysRun_cap (ws : Nat → Go.World) (es : List SEv) (i : Nat) (s : Sys) : (sysRun ws i s es).cap = s.cap := by
  induction es generalizing i s with
  | nil => rfl
  | cons e es ih => exact (ih (i + 1) _).trans (by cases e <;> rfl)

theorem registered_prefix (ws : Nat → Go.World) (es : List SEv) (i : Nat) (s : Sys) :
    s.registered <+: (sysRun ws i s es).registered := by
  induction es generalizing i s with
  | nil => exact List.prefix_refl _
  | cons e es ih =>
    refine List.IsPrefix.trans ?_ (ih (i + 1) _)
    cases e with
    | register c => exact List.prefix_append _ _
    | _ => exact List.prefix_refl _

section E2E
variable (ws : Nat → Go.World) (hws : ∀ i, (ws i).OrdPOk) (cap : Go.Chan → Nat) (es : List SEv) (hd : Disc es)
include hws hd

/-- **the hub never sends on a channel it has closed** (in Go: no "send on closed channel" panic) -/
theorem e2e_no_send_on_closed : (sysRun ws 0 (init cap) es).sentAfterClose = false :=
  (e2e_inv ws hws cap es hd).noSendOnClosed

/-- **no channel is closed twice** (in Go: no "close of closed channel" panic) -/
theorem e2e_no_double_close : (sysRun ws 0 (init cap) es).closedLog.Nodup :=
  (e2e_inv ws hws cap es hd).core.closed_nodup

/-- **whatever a connection used is given back**: a registered client is either still filed in the hub, or its
    send channel has been closed — never both, never neither. (Every registered client was filed at its
    registration, see `register_files`, so "not filed" means it left by `unregister` or by eviction.) -/
theorem e2e_closed_iff_removed (c : Client) (hc : c ∈ (sysRun ws 0 (init cap) es).registered) :
    c.send ∈ (sysRun ws 0 (init cap) es).closedLog ↔ ¬ filed (sysRun ws 0 (init cap) es).h c.topic c := by
  have hi := (e2e_inv ws hws cap es hd).core
  rw [hi.closed_iff]
  exact ⟨fun ⟨c', hr', e, hnf⟩ => hi.send_inj c' hr' c hc e ▸ hnf, fun hnf => ⟨c, hc, rfl, hnf⟩⟩

/-- … and it has been closed exactly once -/
theorem e2e_closed_exactly_once (c : Client) (hc : c ∈ (sysRun ws 0 (init cap) es).registered) :
    (sysRun ws 0 (init cap) es).closedLog.count c.send
      = if filed (sysRun ws 0 (init cap) es).h c.topic c then 0 else 1 := by
  rw [(e2e_no_double_close ws hws cap es hd).count]
  simp only [e2e_closed_iff_removed ws hws cap es hd c hc, ite_not]

/-- … and nothing else is ever closed: a closed channel is the send channel of a registered client that is no
    longer filed -/
theorem e2e_closed_only_registered (ch : Go.Chan) (hch : ch ∈ (sysRun ws 0 (init cap) es).closedLog) :
    ∃ c ∈ (sysRun ws 0 (init cap) es).registered, c.send = ch ∧ ¬ filed (sysRun ws 0 (init cap) es).h c.topic c :=
  ((e2e_inv ws hws cap es hd).core.closed_iff ch).1 hch

/-- only registered clients are filed, each under its own topic -/
theorem e2e_filed_registered (t : String) (c : Client) (hf : filed (sysRun ws 0 (init cap) es).h t c) :
    c ∈ (sysRun ws 0 (init cap) es).registered ∧ c.topic = t :=
  ⟨(e2e_inv ws hws cap es hd).core.filed_reg t c hf, (e2e_inv ws hws cap es hd).core.wf.own t c hf⟩

/-- **the non-blocking send never overfills a queue** -/
theorem e2e_queue_bounded (ch : Go.Chan) : ((sysRun ws 0 (init cap) es).q ch).length ≤ cap ch := by
  have := (e2e_inv ws hws cap es hd).bounded ch
  rw [sysRun_cap] at this
  exact this

/-- **topic isolation and no echo, over the whole history**: every send the hub ever performed went to the
    send channel of a registered client on the sender's topic whose name is not the sender's -/
theorem e2e_isolation_no_echo (ch : Go.Chan) (m : message) (hm : (ch, m) ∈ (sysRun ws 0 (init cap) es).sendLog) :
    ∃ c ∈ (sysRun ws 0 (init cap) es).registered, c.send = ch ∧ c.topic = m.sender.topic ∧ c.name ≠ m.sender.name :=
  (e2e_inv ws hws cap es hd).sends ch m hm

/-- … and that client is the only registered client with this channel (or with this address) -/
theorem e2e_channel_owner_unique (a b : Client) (ha : a ∈ (sysRun ws 0 (init cap) es).registered)
    (hb : b ∈ (sysRun ws 0 (init cap) es).registered) (e : a.send = b.send ∨ a.addr__ = b.addr__) : a = b :=
  e.elim ((e2e_inv ws hws cap es hd).core.send_inj a ha b hb) ((e2e_inv ws hws cap es hd).core.addr_inj a ha b hb)

theorem e2e_registered_nodup : (sysRun ws 0 (init cap) es).registered.Nodup :=
  (e2e_inv ws hws cap es hd).core.reg_nodup

end E2E

/-- **isolation and no echo, at the time of the send**: whenever the history reaches an `inbound m`, each send of
    that step is `m` itself, to a client that is filed at that moment (so registered, not removed), on the sender's
    topic, not the sender, whose queue has room at that moment and whose channel has not been closed up to that
    moment -/
theorem e2e_send_at_time (ws : Nat → Go.World) (hws : ∀ i, (ws i).OrdPOk) (cap : Go.Chan → Nat)
    (pre post : List SEv) (m : message) (hd : Disc (pre ++ .inbound m :: post)) (ch : Go.Chan) (m' : message)
    (hm : (ch, m') ∈ stepOut (ws pre.length) (sysRun ws 0 (init cap) pre) (.inbound m)) :
    let s := sysRun ws 0 (init cap) pre
    m' = m ∧ ch ∉ s.closedLog ∧ (s.q ch).length < cap ch ∧
      ∃ c, filed s.h c.topic c ∧ c ∈ s.registered ∧ c.send = ch ∧ c.topic = m.sender.topic ∧ c.name ≠ m.sender.name := by
  intro s
  have hi : Inv s := e2e_inv ws hws cap pre (disc_prefix pre _ hd)
  obtain ⟨h1, h2, h3, h4⟩ :=
    broadcast_out_spec (worldOf (ws pre.length) s) (worldOf_ok _ s (hws _)) hi.core m ch m' hm
  have hcap : s.cap = cap := sysRun_cap ws pre 0 (init cap)
  exact ⟨h1, h2, hcap ▸ of_decide_eq_true h3, h4⟩

theorem sysStep_sendLog (o : Go.World) (s : Sys) (e : SEv) : (sysStep o s e).sendLog = s.sendLog ++ stepOut o s e := by
  cases e with
  | inbound m => rfl
  | _ => exact (List.append_nil _).symm

theorem drain_succ (o : Go.World) (s : Sys) (ch : Go.Chan) (k : Nat) :
    sysStep o (sysStep o s (.drain ch k)) (.drain ch 0) = sysStep o s (.drain ch (k + 1)) := by
  simp only [sysStep]
  congr 1; funext ch'
  by_cases h : ch' = ch <;> simp [h, List.drop_drop]

theorem sendLog_eq_outs (ws : Nat → Go.World) (es : List SEv) (i : Nat) (s : Sys) :
    (sysRun ws i s es).sendLog = s.sendLog ++ (outs ws i s es).flatten := by
  induction es generalizing i s with
  | nil => exact (List.append_nil _).symm
  | cons e es ih =>
    show (sysRun ws (i + 1) (sysStep (ws i) s e) es).sendLog = s.sendLog ++ (stepOut (ws i) s e ++ _)
    rw [ih, sysStep_sendLog, List.append_assoc]

/-- **no duplicate delivery**: in every step of every history, the channels sent to are pairwise different —
    no client receives one inbound message twice -/
theorem e2e_no_duplicate_delivery (ws : Nat → Go.World) (hws : ∀ i, (ws i).OrdPOk) (cap : Go.Chan → Nat)
    (es : List SEv) (hd : Disc es) : ∀ o ∈ outs ws 0 (init cap) es, (o.map (·.1)).Nodup := by
  suffices h : ∀ i s, Inv s → DiscFrom s.registered es → ∀ o ∈ outs ws i s es, (o.map (·.1)).Nodup from
    h 0 _ (inv_init cap) hd
  clear hd
  induction es with
  | nil => intro _ _ _ _ o ho; cases ho
  | cons e es ih =>
    intro i s hi hd
    obtain ⟨h1, h2⟩ := discFrom_cons s (ws i) e es hd
    refine List.forall_mem_cons.2 ⟨?_, ih (i + 1) _ (step_inv (ws i) (hws i) s e hi h1) h2⟩
    cases e with
    | inbound m => exact broadcast_out_chans_nodup _ (worldOf_ok _ s (hws i)) s.h s.registered s.closedLog hi.core m
    | _ => exact List.nodup_nil

/-- … and these steps make up the whole send log -/
theorem e2e_sendLog_eq_outs (ws : Nat → Go.World) (cap : Go.Chan → Nat) (es : List SEv) :
    (sysRun ws 0 (init cap) es).sendLog = (outs ws 0 (init cap) es).flatten := by
  rw [sendLog_eq_outs]; rfl

/-- a registration files the client (so "registered and not filed" means: removed since) -/
theorem register_files (o : Go.World) (s : Sys) (c : Client) :
    filed (sysStep o s (.register c)).h c.topic c ∧ c ∈ (sysStep o s (.register c)).registered :=
  ⟨(register_filed (worldOf o s) s.h c c.topic c).2 (Or.inr ⟨rfl, rfl⟩), List.mem_concat_self⟩

/-! ## a concrete history: the hypotheses are satisfiable, the logs are not empty, and the discipline matters -/

namespace Demo

deriving instance DecidableEq for message

def a : Client := { (default : Client) with name := "a", topic := "t", send := 1, bookingID := "bk", denied := 11, addr__ := 1 }
def b : Client := { (default : Client) with name := "b", topic := "t", send := 2, bookingID := "bk", denied := 12, addr__ := 2 }
def c : Client := { (default : Client) with name := "c", topic := "u", send := 3, bookingID := "bk", denied := 13, addr__ := 3 }
def d : Client := { (default : Client) with name := "d", topic := "t", send := 4, bookingID := "bk", denied := 14, addr__ := 4 }

/-- `a`'s queue holds one message, everybody else's two -/
def cap : Go.Chan → Nat := fun ch => if ch = 1 then 1 else 2

def ws : Nat → Go.World := fun _ => { now := 0, fresh := "", ord := fun l => l, ordP := fun l => l.reverse }

theorem ws_ok : ∀ i, (ws i).OrdPOk := fun _ _ _ m => List.reverse_perm m

def m1 : message := { sender := b, mt := 1, data := [1] }
def m2 : message := { sender := b, mt := 1, data := [2] }
def m3 : message := { sender := a, mt := 1, data := [3] }
def m4 : message := { sender := c, mt := 1, data := [4] }

/-- `a`, `b`, `d` join topic `t`, `c` joins topic `u`. `b` says `m1` (to `a` and `d`), then `m2`: `a`'s queue is
    full, `a` is evicted and its channel closed, `d` gets `m2`. `d`'s pump takes both. `a` (no longer filed) says
    `m3` (to `b` and `d`). `b` is unregistered twice (closed once). `b`'s pump takes one. `c` says `m4` (nobody else
    on `u`). `c` is unregistered; `a`, evicted long ago, is unregistered (nothing closed). -/
def hist : List SEv :=
  [.register a, .register b, .register c, .register d, .inbound m1, .inbound m2, .drain 4 1, .inbound m3,
   .unregister b, .unregister b, .drain 2 0, .inbound m4, .unregister c, .unregister a]

def fin : Sys := sysRun ws 0 (init cap) hist

theorem hist_disc : Disc hist := by decide

example : Disc hist := hist_disc

example : fin.sendLog.map (fun p => (p.1, p.2.data)) = [(1, [1]), (4, [1]), (4, [2]), (2, [3]), (4, [3])] := by decide +kernel
example : (outs ws 0 (init cap) hist).map (fun o => o.map (·.1)) = [[], [], [], [], [1, 4], [4], [], [2, 4], [], [], [], [], [], []] := by
  decide +kernel
example : fin.closedLog = [1, 2, 3] := by decide +kernel
example : fin.registered = [a, b, c, d] := by decide +kernel
example : filed fin.h "t" d ∧ ¬ filed fin.h "t" a ∧ ¬ filed fin.h "t" b ∧ ¬ filed fin.h "u" c := by decide +kernel
example : (fin.q 1).length = 1 ∧ (fin.q 2).length = 0 ∧ (fin.q 3).length = 0 ∧ (fin.q 4).length = 1 := by decide +kernel
example : fin.sentAfterClose = false := by decide +kernel

example : fin.sentAfterClose = false := e2e_no_send_on_closed ws ws_ok cap hist hist_disc
example : fin.closedLog.Nodup := e2e_no_double_close ws ws_ok cap hist hist_disc
example : a.send ∈ fin.closedLog := (e2e_closed_iff_removed ws ws_ok cap hist hist_disc a (by decide +kernel)).2 (by decide +kernel)
example : d.send ∉ fin.closedLog :=
  fun hm => (e2e_closed_iff_removed ws ws_ok cap hist hist_disc d (by decide +kernel)).1 hm (by decide +kernel)
example : fin.closedLog.count b.send = 1 :=
  (e2e_closed_exactly_once ws ws_ok cap hist hist_disc b (by decide +kernel)).trans (by decide +kernel)
example : ((fin.q 4).length ≤ 2) := e2e_queue_bounded ws ws_ok cap hist hist_disc 4
example : ∃ x ∈ fin.registered, x.send = 1 ∧ x.topic = m1.sender.topic ∧ x.name ≠ m1.sender.name :=
  e2e_isolation_no_echo ws ws_ok cap hist hist_disc 1 m1 (by decide +kernel)
example : ([1, 4].map (fun ch => (ch, m1))).map (·.1) |>.Nodup :=
  e2e_no_duplicate_delivery ws ws_ok cap hist hist_disc _ (by decide +kernel)

/-- **the discipline matters** (1): the same client object, with the same channel, is registered again after it was
    unregistered (its channel closed). The next broadcast sends on the closed channel: the Go program would panic. -/
def bad1 : List SEv := [.register a, .unregister a, .register a, .register b, .inbound m1]

example : ¬ Disc bad1 := by decide
example : (sysRun ws 0 (init cap) bad1).closedLog = [1] := by decide +kernel
example : (sysRun ws 0 (init cap) bad1).sendLog.map (·.1) = [1] := by decide +kernel
example : (sysRun ws 0 (init cap) bad1).sentAfterClose = true := by decide +kernel

/-- … (2): the same after an eviction instead of an unregister -/
def bad2 : List SEv := [.register a, .register b, .inbound m1, .inbound m2, .drain 1 0, .register a, .inbound m2]

example : ¬ Disc bad2 := by decide
example : (sysRun ws 0 (init cap) bad2).closedLog = [1] := by decide +kernel
example : (sysRun ws 0 (init cap) bad2).sentAfterClose = true := by decide +kernel

/-- … (3): re-registered and unregistered again, the channel is closed twice: the Go program would panic -/
def bad3 : List SEv := [.register a, .unregister a, .register a, .unregister a]

example : ¬ Disc bad3 := by decide
example : (sysRun ws 0 (init cap) bad3).closedLog = [1, 1] := by decide
example : ¬ (sysRun ws 0 (init cap) bad3).closedLog.Nodup := by decide

/-- … (4): a different client object that reuses the channel of a client that has left -/
def a' : Client := { a with name := "a2", addr__ := 5 }
def bad4 : List SEv := [.register a, .unregister a, .register a', .register b, .inbound m1]

example : ¬ Disc bad4 := by decide
example : (sysRun ws 0 (init cap) bad4).sentAfterClose = true := by decide +kernel

end Demo

end TieHubE2E
